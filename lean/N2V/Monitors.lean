/-
  Decidable predicates on OBSERVED scheduler traces.  The driver evaluates them on the trace
  recorded from the real n2 (so a property failure of the implementation is decided by these
  definitions, not by the harness), and Props/* relate them to the model.
-/
import N2V.Model.Run
import N2V.TraceSpec
import N2V.Lemmas.SchedDefs
namespace N2V.Mon
open N2V N2V.Sched

/-- Builds that (transitively) produce an ordering input of `b`. -/
def orderingProducers (g : Graph) (b : Nat) : List Nat :=
  dedup ((g.build b).ordering.filterMap g.producer)

def allProducers (g : Graph) (b : Nat) : List Nat :=
  dedup (((g.build b).ordering ++ (g.build b).validation).filterMap g.producer)

/-- Transitive closure of `next` from `frontier` (bounded by the number of builds). -/
def closure (next : Nat → List Nat) : Nat → List Nat → List Nat → List Nat
  | 0, _, acc => acc
  | _ + 1, [], acc => acc
  | fuel + 1, b :: rest, acc =>
    if acc.contains b then closure next fuel rest acc
    else closure next fuel (next b ++ rest) (b :: acc)

def ancestors (g : Graph) (b : Nat) : List Nat :=
  closure (orderingProducers g) (g.nBuilds * g.nBuilds + g.nBuilds + 1) (orderingProducers g b) []

structure Scan where
  st : Nat → St := fun _ => .unknown
  running : List Nat := []
  started : List Nat := []
  failed : List Nat := []
  failures : Nat := 0
  successes : Nat := 0
  interrupted : Bool := false
  lastDone : Int := 0
  lastFailed : Int := 0
  -- verdicts (conjunctions over the trace so far)
  afterDeps : Bool := true
  once : Bool := true
  limits : Bool := true
  contained : Bool := true
  budget : Bool := true
  counts : Bool := true
  setsConsistent : Bool := true
  noStartAfterStop : Bool := true
  loads : Nat := 0

def poolDepth (pools : List Pool) (name : Bytes) : Option Nat :=
  (pools.find? (·.name == name)).map (·.depth)

def countSt (g : Graph) (st : Nat → St) (s : St) : Int :=
  ((List.range g.nBuilds).filter (fun b => !(g.build b).phony && st b == s)).length

def step (g : Graph) (a : Run.Args) (pools : List Pool) (sc : Scan) (e : Ev) : Scan :=
  match e with
  | .set id prev new _ _ =>
    { sc with st := upd sc.st id new, setsConsistent := sc.setsConsistent && sc.st id == prev }
  | .start b =>
    let running := b :: sc.running
    let inPool (p : Bytes) := (running.filter (fun r => (g.build r).pool == p)).length
    let poolOk := match poolDepth pools (g.build b).pool with
      | some d => d == 0 || inPool (g.build b).pool ≤ d
      | none => false
    { sc with
      running := running, started := b :: sc.started,
      afterDeps := sc.afterDeps && (ancestors g b).all (fun p => sc.st p == .done),
      once := sc.once && !sc.started.contains b,
      limits := sc.limits && running.length ≤ a.par && poolOk,
      contained := sc.contained && !(ancestors g b).any sc.failed.contains,
      budget := sc.budget && (match a.failuresLeft with | some k => sc.failures < k | none => true),
      noStartAfterStop := sc.noStartAfterStop && !sc.interrupted }
  | .finish b t =>
    { sc with
      running := sc.running.erase b,
      failed := if t == .failure then b :: sc.failed else sc.failed,
      failures := if t == .failure then sc.failures + 1 else sc.failures,
      successes := if t == .success then sc.successes + 1 else sc.successes,
      interrupted := sc.interrupted || t == .interrupted,
      setsConsistent := sc.setsConsistent && sc.running.contains b }
  | .load =>
    -- a new `Work`: every build is Unknown again; nothing may still be running
    { sc with st := fun _ => .unknown, started := [], failed := [], lastDone := 0, lastFailed := 0,
              loads := sc.loads + 1, setsConsistent := sc.setsConsistent && sc.running.isEmpty }
  | .update cs =>
    let expect := [St.want, .ready, .queued, .running, .done, .failed].map (countSt g sc.st)
    let done := cs.getD 4 0
    let failed := cs.getD 5 0
    { sc with
      counts := sc.counts && cs == expect && cs.getD 3 0 == (sc.running.length : Int)
                  && done ≥ sc.lastDone && failed ≥ sc.lastFailed,
      lastDone := done, lastFailed := failed }

def scan (g : Graph) (a : Run.Args) (tr : List Ev) : Scan :=
  tr.foldl (step g a (initPools a.pools)) {}

/-- The files the invocation asks for (C18 `target_choice`), or `none` when a name is unknown.
    The manifest named as a target is skipped by `run::build` (it was brought up to date in the
    first phase already); `wantedBuilds` adds it for invocations that did not reload. -/
def wantedFiles (g : Graph) (a : Run.Args) : Option (List Nat) :=
  if !a.targets.isEmpty then
    a.targets.foldl (fun acc n =>
      match acc, Run.lookupM g a n with
      | some l, .ok (some t) => some (if t = a.manifest then l else l ++ [t])
      | some l, .ok none => if a.adopt then some l else none
      | _, _ => none) (some [])
  else if !a.defaults.isEmpty then some a.defaults
  else some ((List.range g.nFiles).filter (· ≠ a.manifest))

/-- The command-line names that resolve (used when another one does not). -/
def resolvable (g : Graph) (a : Run.Args) : List Nat :=
  a.targets.filterMap (fun n => match Run.lookupM g a n with | .ok (some t) => some t | _ => none)

/-- Builds in the closure of the wanted files over ordering and validation producers. -/
def wantedBuilds (g : Graph) (a : Run.Args) (files : List Nat) (withManifest : Bool := true) : List Nat :=
  closure (allProducers g) (g.nBuilds * g.nBuilds + g.nBuilds + 1)
    ((if withManifest then a.manifest :: files else files).filterMap g.producer) []

/-- Is some build of `bs` on a cycle of ordering edges (it reaches itself through producers of
    ordering inputs)? -/
def hasOrderingCycle (g : Graph) (bs : List Nat) : Bool :=
  bs.any (fun b => (ancestors g b).contains b)

/-- The theorems' hypotheses about the graph (`GraphOK`, `DepsOK`), decided on the graph the real
    loader built: producers are builds that list the file among their outputs; every build is a
    dependent of each of its ordering inputs. -/
def graphHypsB (g : Graph) : Bool :=
  (List.range g.nFiles).all (fun f =>
    match g.producer f with
    | some p => decide (p < g.nBuilds) && (g.build p).outs.contains f
    | none => true) &&
  (List.range g.nBuilds).all (fun b => (g.build b).ordering.all (fun f => (g.dependents f).contains b))

structure Verdicts where
  startsAfterDeps : Bool
  startsOnce : Bool
  withinLimits : Bool
  failuresContained : Bool
  budgetRespected : Bool
  countsOk : Bool
  traceConsistent : Bool
  onlyWanted : Bool          -- every build that left Unknown is in the requested closure
  closureComplete : Bool     -- (successful collection) every build of the closure left Unknown
  exitOk : Bool              -- success reported ⇒ no failure/interrupt and every wanted build Done
  summaryOk : Bool           -- `ran N tasks`: N = number of successful commands
  decided : Bool             -- no failure/interrupt/error ⇒ success; never the BUG panic
  stopsOnInterrupt : Bool
  cycleSound : Bool          -- a `dependency cycle` diagnostic only if the requested closure has one
  cycleComplete : Bool       -- an ordering cycle in the requested closure is never built through
  traceSpec : Bool           -- every event satisfies `okEv` (TraceSpec.lean) w.r.t. its history
  budgetSpec : Bool          -- every start respected the -k budget and preceded any interruption (`budgetTrace`)
  keepsGoing : Bool          -- failure within budget: every wanted step not downstream of a failure is Done
  graphHyps : Bool           -- the hypotheses of the theorems (GraphOK, DepsOK) hold of the real graph

/-- `result`: the observed outcome token (`ok n`, `fail`, `err ..`, `panic ..`). -/
def verdicts (g : Graph) (a : Run.Args) (result : List String) (tr : List Ev) : Verdicts :=
  let sc := scan g a tr
  let wanted := wantedFiles g a
  let touched := (List.range g.nBuilds).filter (fun b => sc.st b != .unknown)
  -- after a reload the manifest itself is not wanted again
  let cl := match wanted with | some fs => wantedBuilds g a fs (sc.loads ≤ 1) | none => []
  let isOk := result.head? == some "ok"
  let isErr := result.head? == some "err"
  let isPanic := result.head? == some "panic" || result.head? == some "abort"
  let n := (result.getD 1 "").toNat?.getD 0
  { startsAfterDeps := sc.afterDeps
    startsOnce := sc.once
    withinLimits := sc.limits
    failuresContained := sc.contained
    budgetRespected := sc.budget
    countsOk := sc.counts
    traceConsistent := sc.setsConsistent
    onlyWanted := match wanted with
      | some _ => touched.all cl.contains
      -- an unknown name: the names before it were already marked (never more than what the
      -- resolvable names ask for), and no command outside the manifest's closure was started
      | none => (touched.all (wantedBuilds g a (resolvable g a)).contains) && sc.started.all (wantedBuilds g a []).contains
    closureComplete := !isOk || cl.all touched.contains
    exitOk := !isOk || (sc.failures == 0 && !sc.interrupted && touched.all (fun b => sc.st b == .done))
    summaryOk := !isOk || n == sc.successes
    decided := !isPanic && (isOk || isErr || sc.failures > 0 || sc.interrupted)
    stopsOnInterrupt := sc.noStartAfterStop
    cycleSound :=
      let isCycleErr := match result with
        | ["err", h] => (match bytesOfHex h with
          | some b => (stringOfBytes b).startsWith "dependency cycle"
          | none => false)
        | _ => false
      -- the requested steps (closure over ordering AND validation edges) of everything that
      -- may have been requested; the cycle itself must consist of ordering edges
      let reach := closure (allProducers g) (g.nBuilds * g.nBuilds + g.nBuilds + 1)
        (match wanted with
         | some fs => (a.manifest :: fs).filterMap g.producer
         | none => (List.range g.nFiles).filterMap g.producer) []
      !isCycleErr || hasOrderingCycle g reach
    cycleComplete :=
      let reach := match wanted with
        | some fs => closure (allProducers g) (g.nBuilds * g.nBuilds + g.nBuilds + 1)
            ((if sc.loads ≤ 1 then a.manifest :: fs else fs).filterMap g.producer) []
        | none => []
      !isOk || !hasOrderingCycle g reach
    traceSpec := okTrace g a.par (poolShape (initPools a.pools)) tr.reverse
    budgetSpec := a.failuresLeft == some 0 || budgetTrace a.failuresLeft tr.reverse
    keepsGoing :=
      let exhausted := match a.failuresLeft with | some k => decide (sc.failures ≥ k) | none => false
      isOk || isErr || isPanic || sc.interrupted || exhausted ||
      touched.all (fun b => sc.st b == .done || sc.st b == .failed ||
        (ancestors g b).any (fun p => sc.st p == .failed))
    graphHyps := graphHypsB g }

def Verdicts.toList (v : Verdicts) : List (String × Bool) :=
  [("startsAfterDeps", v.startsAfterDeps), ("startsOnce", v.startsOnce), ("withinLimits", v.withinLimits),
   ("failuresContained", v.failuresContained), ("budgetRespected", v.budgetRespected),
   ("countsOk", v.countsOk), ("traceConsistent", v.traceConsistent), ("onlyWanted", v.onlyWanted),
   ("closureComplete", v.closureComplete), ("exitOk", v.exitOk), ("summaryOk", v.summaryOk),
   ("decided", v.decided), ("stopsOnInterrupt", v.stopsOnInterrupt),
   ("cycleSound", v.cycleSound), ("cycleComplete", v.cycleComplete), ("traceSpec", v.traceSpec),
   ("budgetSpec", v.budgetSpec), ("keepsGoing", v.keepsGoing), ("graphHyps", v.graphHyps)]

end N2V.Mon
