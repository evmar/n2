/-
  What the depfile parser computes, at byte level: for depfiles made of `target: prereq ...`
  entries with any spacing, backslash-newline continuations and blank lines, `parse` returns
  exactly the listed targets with their prerequisites, in order.
-/
import N2V.Lemmas.DepfileTotal
namespace N2V.Depfile
open N2V N2V.Scanner

/-- A byte that can occur inside a path of a depfile as compilers write them. -/
def safe (c : UInt8) : Prop := c ≠ NUL ∧ c ≠ SP ∧ c ≠ NL ∧ c ≠ BSL ∧ c ≠ CR

/-- Spacing between tokens: spaces and backslash-newline continuations. -/
inductive GapItem where
  | sp | cont
  deriving DecidableEq, Repr

def gapBytes : List GapItem → Bytes
  | [] => []
  | .sp :: g => SP :: gapBytes g
  | .cont :: g => BSL :: NL :: gapBytes g

theorem skipSpaces_spec (buf : Array UInt8) (gs : List GapItem) : ∀ (fuel : Nat) (s : Scanner) (c : UInt8)
    (r : Bytes), At buf s (gapBytes gs ++ c :: r) → c ≠ SP → c ≠ BSL → buf.size - s.ofs < fuel →
    ∃ s', skipSpaces fuel s = .ok () s' ∧ At buf s' (c :: r) := by
  induction gs with
  | nil =>
    intro fuel s c r a hsp hbs hf
    obtain ⟨fuel, rfl⟩ := fuel_pos hf
    have a : At buf s (c :: r) := a
    refine ⟨s, ?_, a⟩
    rw [skipSpaces_succ a.g a.rest.head, if_neg (byte_not_beq hsp), if_neg (byte_not_beq hbs)]
  | cons gi gs ih =>
    intro fuel s c r a hsp hbs hf
    obtain ⟨fuel, rfl⟩ := fuel_pos hf
    cases gi with
    | sp =>
      have a : At buf s (SP :: (gapBytes gs ++ c :: r)) := a
      obtain ⟨s', h', a'⟩ := ih fuel _ c r (a.step sp_inner) hsp hbs (fuel_succ a.g.lt hf (Nat.lt_succ_self _))
      refine ⟨s', ?_, a'⟩
      rw [skipSpaces_succ a.g a.rest.head, if_pos (byte_beq_self _), h']
    | cont =>
      have a : At buf s (BSL :: NL :: (gapBytes gs ++ c :: r)) := a
      have a1 := a.step bsl_inner
      obtain ⟨s', h', a'⟩ := ih fuel _ c r (a1.step nl_inner) hsp hbs
        (fuel_succ a.g.lt hf (Nat.lt_succ_of_lt (Nat.lt_succ_self _)))
      refine ⟨s', ?_, a'⟩
      rw [skipSpaces_succ a.g a.rest.head, if_neg (byte_not_beq bsl_ne_sp), if_pos (byte_beq_self _), a1.read]
      simp only []
      rw [if_pos (byte_beq_self _), h']

/-- What may follow a path: end of input, a space, a newline, or a continuation. -/
def Term (r : Bytes) : Prop :=
  match r with
  | [] => False
  | d :: r' => d = NUL ∨ d = SP ∨ d = NL ∨ (d = BSL ∧ r'.head? = some NL)

theorem term_gap (gs : List GapItem) (x : Bytes) (h : gs ≠ []) : Term (gapBytes gs ++ x) := by
  cases gs with
  | nil => exact absurd rfl h
  | cons gi gs =>
    cases gi with
    | sp => exact .inr (.inl rfl)
    | cont => exact .inr (.inr (.inr ⟨rfl, rfl⟩))

theorem term_end {e : UInt8} (he : e = NL ∨ e = NUL) (r : Bytes) : Term (e :: r) :=
  he.elim (fun h => .inr (.inr (.inl h))) .inl

theorem term_nl (r : Bytes) : Term (NL :: r) := term_end (.inl rfl) r
theorem term_nul (r : Bytes) : Term (NUL :: r) := term_end (.inr rfl) r

/-- The bytes at which `read_path` stops outright. -/
theorem stops_iff (c : UInt8) : (c == NUL || c == SP || c == NL) = true ↔ c = NUL ∨ c = SP ∨ c = NL := by
  simp only [Bool.or_eq_true, beq_iff_eq, or_assoc]

theorem readPathLoop_spec (buf : Array UInt8) (name : Bytes) : (∀ c ∈ name, safe c) → ∀ (fuel : Nat) (s : Scanner)
    (r : Bytes), At buf s (name ++ r) → Term r → buf.size - s.ofs < fuel →
    ∃ s', readPathLoop fuel s = .ok () s' ∧ At buf s' r := by
  induction name with
  | nil =>
    intro _ fuel s r a ht hf
    obtain ⟨fuel, rfl⟩ := fuel_pos hf
    cases r with
    | nil => exact False.elim ht
    | cons d r' =>
      have a : At buf s (d :: r') := a
      refine ⟨s, ?_, a⟩
      unfold readPathLoop
      rw [a.read]
      simp only []
      by_cases hstop : (d == NUL || d == SP || d == NL) = true
      · rw [if_pos hstop, a.back]
      · -- not a stop byte: the backslash of a continuation
        obtain ⟨rfl, hnl⟩ : d = BSL ∧ r'.head? = some NL := by
          rcases ht with h | h | h | h
          · exact absurd ((stops_iff d).2 (.inl h)) hstop
          · exact absurd ((stops_iff d).2 (.inr (.inl h))) hstop
          · exact absurd ((stops_iff d).2 (.inr (.inr h))) hstop
          · exact h
        cases r' with
        | nil => cases hnl
        | cons x r'' =>
          obtain rfl : x = NL := Option.some.inj hnl
          rw [if_neg hstop, if_pos (byte_beq_self _), (a.step bsl_inner).peek]
          simp only []
          rw [if_pos (byte_beq_self _), a.back]
  | cons c name ih =>
    intro hs fuel s r a ht hf
    obtain ⟨fuel, rfl⟩ := fuel_pos hf
    obtain ⟨h0, hsp, hnl, hbs, hcr⟩ := hs c List.mem_cons_self
    have a : At buf s (c :: (name ++ r)) := a
    obtain ⟨s', h', a'⟩ := ih (fun x hx => hs x (List.mem_cons_of_mem _ hx)) fuel _ r (a.step ⟨h0, hcr⟩) ht
      (fuel_succ a.g.lt hf (Nat.lt_succ_self _))
    refine ⟨s', ?_, a'⟩
    unfold readPathLoop
    rw [a.read]
    simp only []
    rw [if_neg fun h => ((stops_iff c).1 h).elim h0 fun h => h.elim hsp hnl, if_neg (byte_not_beq hbs)]
    exact h'

theorem readPath_some (buf : Array UInt8) (gs : List GapItem) (name r : Bytes) (hne : name ≠ [])
    (hs : ∀ c ∈ name, safe c) (fuel : Nat) (s : Scanner) (a : At buf s (gapBytes gs ++ (name ++ r)))
    (ht : Term r) (hf : buf.size - s.ofs < fuel) :
    ∃ s', readPath fuel s = .ok (some name) s' ∧ At buf s' r := by
  obtain ⟨c, n', rfl⟩ := List.exists_cons_of_ne_nil hne
  have hc := hs c List.mem_cons_self
  obtain ⟨s1, h1, a1⟩ := skipSpaces_spec buf gs fuel s c (n' ++ r) a hc.2.1 hc.2.2.2.1 hf
  have a1 : At buf s1 ((c :: n') ++ r) := a1
  obtain ⟨s2, h2, a2⟩ := readPathLoop_spec buf (c :: n') hs fuel s1 r a1 ht
    (fuel_mono hf (a.ofs_le a1))
  have ho := At.ofs_add a1 a2
  refine ⟨s2, ?_, a2⟩
  unfold readPath
  rw [h1]
  simp only []
  rw [h2]
  simp only []
  rw [if_neg (by rw [ho]; simp), a1.slice a2]

theorem readPath_none (buf : Array UInt8) (gs : List GapItem) (d : UInt8) (r : Bytes) (hd : d = NL ∨ d = NUL)
    (fuel : Nat) (s : Scanner) (a : At buf s (gapBytes gs ++ d :: r)) (hf : buf.size - s.ofs < fuel) :
    ∃ s', readPath fuel s = .ok none s' ∧ At buf s' (d :: r) := by
  have hdn : d ≠ SP ∧ d ≠ BSL := by rcases hd with rfl | rfl <;> decide
  obtain ⟨s1, h1, a1⟩ := skipSpaces_spec buf gs fuel s d r a hdn.1 hdn.2 hf
  obtain ⟨s2, h2, a2⟩ := readPathLoop_spec buf [] (fun _ h => by cases h) fuel s1 (d :: r) a1 (term_end hd r)
    (fuel_mono hf (a.ofs_le a1))
  have ho : s2.ofs = s1.ofs := At.ofs_add (x := []) a1 a2
  refine ⟨s2, ?_, a2⟩
  unfold readPath
  rw [h1]
  simp only []
  rw [h2]
  simp only []
  rw [if_pos (by rw [ho]; exact beq_self_eq_true _)]

/-- The prerequisites of one entry as written: each preceded by a gap. -/
def depsBytes : List (List GapItem × Bytes) → Bytes
  | [] => []
  | (gs, n) :: rest => gapBytes gs ++ n ++ depsBytes rest

/-- Names are non-empty runs of path bytes; every gap but the first is non-empty (the first may
    be: `t :dep`). -/
def DepsWF (deps : List (List GapItem × Bytes)) : Prop :=
  (∀ d ∈ deps, d.2 ≠ [] ∧ ∀ c ∈ d.2, safe c) ∧ (∀ d ∈ deps.tail, d.1 ≠ [])

/-- A path may be followed by the prerequisites when the first of them, if any, stands after a
    non-empty gap. -/
theorem term_deps (deps : List (List GapItem × Bytes)) (trail : List GapItem) (e : UInt8) (r : Bytes)
    (he : e = NL ∨ e = NUL) (h : ∀ d ∈ deps.head?, d.1 ≠ []) :
    Term (depsBytes deps ++ (gapBytes trail ++ e :: r)) := by
  cases deps with
  | nil =>
    cases trail with
    | nil => exact term_end he r
    | cons t ts => exact term_gap (t :: ts) _ (List.cons_ne_nil _ _)
  | cons d deps =>
    obtain ⟨gs, n⟩ := d
    rw [depsBytes, List.append_assoc, List.append_assoc]
    exact term_gap gs _ (h (gs, n) rfl)

theorem readDeps_spec (buf : Array UInt8) (pf : Nat) (deps : List (List GapItem × Bytes)) : DepsWF deps →
    ∀ (trail : List GapItem) (e : UInt8) (r : Bytes) (fuel : Nat) (s : Scanner) (acc : List Bytes),
    At buf s (depsBytes deps ++ (gapBytes trail ++ e :: r)) → (e = NL ∨ e = NUL) →
    buf.size - s.ofs < fuel → buf.size - s.ofs < pf →
    ∃ s', readDeps fuel pf s acc = .ok (acc ++ deps.map (·.2)) s' ∧ At buf s' (e :: r) := by
  induction deps with
  | nil =>
    intro _ trail e r fuel s acc a he hf hpf
    obtain ⟨fuel, rfl⟩ := fuel_pos hf
    obtain ⟨s', h', a'⟩ := readPath_none buf trail e r he pf s a hpf
    refine ⟨s', ?_, a'⟩
    unfold readDeps
    rw [h', List.map_nil, List.append_nil]
  | cons d deps ih =>
    intro hwf trail e r fuel s acc a he hf hpf
    obtain ⟨gs, n⟩ := d
    obtain ⟨fuel, rfl⟩ := fuel_pos hf
    have hd := hwf.1 (gs, n) List.mem_cons_self
    have a : At buf s ((gapBytes gs ++ n) ++ (depsBytes deps ++ (gapBytes trail ++ e :: r))) := by
      rw [← List.append_assoc]; exact a
    obtain ⟨s1, h1, a1⟩ := readPath_some buf gs n _ hd.1 hd.2 pf s (by rw [← List.append_assoc]; exact a)
      (term_deps deps trail e r he fun d hd => hwf.2 d (List.mem_of_mem_head? hd)) hpf
    have hlt1 : s.ofs < s1.ofs := by
      rw [At.ofs_add a a1, List.length_append]
      exact Nat.lt_add_of_pos_right (Nat.add_pos_right _ (List.length_pos_iff.mpr hd.1))
    obtain ⟨s', h', a'⟩ := ih ⟨fun x hx => hwf.1 x (List.mem_cons_of_mem _ hx),
      fun x hx => hwf.2 x (List.mem_of_mem_tail hx)⟩ trail e r fuel s1 (acc ++ [n]) a1 he
      (fuel_succ a.g.lt hf hlt1) (fuel_mono hpf (Nat.le_of_lt hlt1))
    refine ⟨s', ?_, a'⟩
    unfold readDeps
    rw [h1]
    simp only []
    rw [h', List.append_assoc]
    rfl

def blankOk (b : Bytes) : Prop := ∀ c ∈ b, c = SP ∨ c = NL

theorem blankOk_append {a b : Bytes} (ha : blankOk a) (hb : blankOk b) : blankOk (a ++ b) := by
  intro c hc
  rcases List.mem_append.mp hc with h | h
  · exact ha c h
  · exact hb c h

theorem skipBlank_spec (buf : Array UInt8) (blank : Bytes) : blankOk blank → ∀ (fuel : Nat) (s : Scanner) (c : UInt8)
    (r : Bytes), At buf s (blank ++ c :: r) → c ≠ SP → c ≠ NL → buf.size - s.ofs < fuel →
    ∃ s', skipBlank fuel s = .ok () s' ∧ At buf s' (c :: r) := by
  induction blank with
  | nil =>
    intro _ fuel s c r a hsp hnl hf
    obtain ⟨fuel, rfl⟩ := fuel_pos hf
    have a : At buf s (c :: r) := a
    refine ⟨s, ?_, a⟩
    rw [skipBlank_succ a.g.w a.rest.head, if_neg]
    rw [Bool.or_eq_true]
    exact fun h => h.elim (byte_not_beq hsp) (byte_not_beq hnl)
  | cons b blank ih =>
    intro hb fuel s c r a hsp hnl hf
    obtain ⟨fuel, rfl⟩ := fuel_pos hf
    obtain ⟨hin, hcond⟩ : (b ≠ NUL ∧ b ≠ CR) ∧ (b == SP || b == NL) = true := by
      rcases hb b List.mem_cons_self with rfl | rfl
      · exact ⟨sp_inner, rfl⟩
      · exact ⟨nl_inner, rfl⟩
    have a : At buf s (b :: (blank ++ c :: r)) := a
    obtain ⟨s', h', a'⟩ := ih (fun x hx => hb x (List.mem_cons_of_mem _ hx)) fuel _ c r (a.step hin) hsp hnl
      (fuel_succ a.g.lt hf (Nat.lt_succ_self _))
    refine ⟨s', ?_, a'⟩
    rw [skipBlank_succ a.g.w a.rest.head, if_pos hcond, h']

/-- A gap is some spaces and then a gap that does not start with a space. -/
theorem gap_lead (gs : List GapItem) (c : UInt8) (x : Bytes) (hc : c ≠ SP) :
    ∃ k c' x' gs', gapBytes gs ++ c :: x = List.replicate k SP ++ c' :: x' ∧ c' ≠ SP ∧
      c' :: x' = gapBytes gs' ++ c :: x := by
  induction gs with
  | nil => exact ⟨0, c, x, [], rfl, hc, rfl⟩
  | cons gi gs ih =>
    cases gi with
    | sp =>
      obtain ⟨k, c', x', gs', h1, h2, h3⟩ := ih
      exact ⟨k + 1, c', x', gs', congrArg (SP :: ·) h1, h2, h3⟩
    | cont => exact ⟨0, BSL, _, .cont :: gs, rfl, bsl_ne_sp, rfl⟩

/-- One entry as written: `target`, spaces, `:`, prerequisites each after a gap, trailing gap. -/
structure FEntry where
  blank : Bytes                       -- blank space (spaces, newlines) before the entry
  target : Bytes
  colonSp : Nat                       -- spaces between the target and the colon (0: `t:`)
  deps : List (List GapItem × Bytes)
  trail : List GapItem

def EntryWF (e : FEntry) : Prop :=
  blankOk e.blank ∧ e.target ≠ [] ∧ (∀ c ∈ e.target, safe c) ∧
  (0 < e.colonSp → e.target.getLast? ≠ some COLON) ∧ DepsWF e.deps ∧
  (e.colonSp = 0 → ∀ d ∈ e.deps.head?, d.1 ≠ [])

def entryCore (e : FEntry) : Bytes :=
  e.target ++ List.replicate e.colonSp SP ++ [COLON] ++ depsBytes e.deps ++ gapBytes e.trail

def bodyBytes : List FEntry → Bytes → Bytes
  | [], tail => tail
  | e :: es, tail => e.blank ++ entryCore e ++ NL :: bodyBytes es tail

theorem bodyBytes_append (es : List FEntry) (a b : Bytes) : bodyBytes es a ++ b = bodyBytes es (a ++ b) := by
  induction es with
  | nil => rfl
  | cons e es ih => simp [bodyBytes, ih, List.append_assoc]

def entriesOf (es : List FEntry) : Entries := es.map (fun e => (e.target, e.deps.map (·.2)))

theorem entryCore_append (e : FEntry) (x : Bytes) :
    entryCore e ++ x =
      e.target ++ (List.replicate e.colonSp SP ++ COLON :: (depsBytes e.deps ++ (gapBytes e.trail ++ x))) := by
  simp only [entryCore, List.append_assoc, List.cons_append, List.nil_append]

theorem entryCore_ne_nil {e : FEntry} (h : e.target ≠ []) : entryCore e ≠ [] := by
  intro h0
  have := congrArg List.length h0
  simp only [entryCore, List.length_append, List.length_nil] at this
  exact h (List.eq_nil_of_length_eq_zero (by omega))

theorem stripColon_glued (t : Bytes) : stripColon (t ++ [COLON]) = some t := by
  unfold stripColon
  simp

theorem stripColon_none (t : Bytes) (h : t.getLast? ≠ some COLON) : stripColon t = none := by
  unfold stripColon
  have : (t.getLast? == some COLON) = false := by simpa using h
  simp [this]

theorem colon_safe : safe COLON := by refine ⟨?_, ?_, ?_, ?_, ?_⟩ <;> decide

theorem deps_then_nl (buf : Array UInt8) (pf : Nat) (deps : List (List GapItem × Bytes)) (hwf : DepsWF deps)
    (trail : List GapItem) (r : Bytes) (s : Scanner) (acc : List Bytes) (g : G buf s)
    (hr : Rest buf s.ofs (depsBytes deps ++ gapBytes trail ++ NL :: r)) (hpf : buf.size - s.ofs < pf) :
    ∃ s', readDeps pf pf s acc = .ok (acc ++ deps.map (·.2)) s' ∧ G buf s' ∧ s.ofs ≤ s'.ofs ∧
      Rest buf s'.ofs (NL :: r) := by
  have a : At buf s ((depsBytes deps ++ gapBytes trail) ++ NL :: r) := ⟨g, hr⟩
  obtain ⟨s', h', a'⟩ := readDeps_spec buf pf deps hwf trail NL r pf s acc (by rw [← List.append_assoc]; exact a)
    (Or.inl rfl) hpf hpf
  exact ⟨s', h', a'.g, a.ofs_le a', a'.rest⟩

/-- The text after the colon, less its leading spaces, is again prerequisites and a trailing gap
    with the same names (this is where the scanner's own `skip_spaces` leaves off). -/
theorem deps_leading_spaces (deps : List (List GapItem × Bytes)) (hwf : DepsWF deps) (trail : List GapItem)
    (c : UInt8) (x : Bytes) (hc : c ≠ SP) :
    ∃ (k : Nat) (c' : UInt8) (x' : Bytes) (deps' : List (List GapItem × Bytes)) (trail' : List GapItem),
      depsBytes deps ++ (gapBytes trail ++ c :: x) = List.replicate k SP ++ c' :: x' ∧ c' ≠ SP ∧
      c' :: x' = depsBytes deps' ++ (gapBytes trail' ++ c :: x) ∧ DepsWF deps' ∧
      deps'.map (·.2) = deps.map (·.2) := by
  cases deps with
  | nil =>
    obtain ⟨k, c', x', trail', h1, h2, h3⟩ := gap_lead trail c x hc
    exact ⟨k, c', x', [], trail', h1, h2, h3, hwf, rfl⟩
  | cons d ds =>
    obtain ⟨gs, n⟩ := d
    obtain ⟨hne, hs⟩ := hwf.1 (gs, n) List.mem_cons_self
    obtain ⟨cn, n', rfl⟩ := List.exists_cons_of_ne_nil hne
    obtain ⟨k, c', x', gs', h1, h2, h3⟩ := gap_lead gs cn (n' ++ (depsBytes ds ++ (gapBytes trail ++ c :: x)))
      (hs cn List.mem_cons_self).2.1
    refine ⟨k, c', x', (gs', cn :: n') :: ds, trail, ?_, h2, ?_, ⟨?_, hwf.2⟩, rfl⟩
    · rw [← h1]; simp only [depsBytes, List.append_assoc, List.cons_append]
    · rw [h3]; simp only [depsBytes, List.append_assoc, List.cons_append]
    · intro d hd
      rcases List.mem_cons.mp hd with rfl | hd
      · exact ⟨hne, hs⟩
      · exact hwf.1 d (List.mem_cons_of_mem _ hd)

/-- One round of `parse`'s main loop from the target token on: the colon is the token's last byte or
    comes next, then the prerequisites are read. -/
theorem parseLoop_entry (buf : Array UInt8) (pf : Nat) (hpf : buf.size < pf) {fuel : Nat} {s s1 s2 s3 s4 : Scanner}
    {acc : Entries} {tok t : Bytes} (h1 : skipBlank pf s = .ok () s1) (h2 : readPath pf s1 = .ok (some tok) s2)
    (h3 : Scanner.skipSpaces pf s2 = .ok s3)
    (h4 : (stripColon tok = some t ∧ s4 = s3) ∨ (stripColon tok = none ∧ t = tok ∧ s3.expect COLON = .ok () s4))
    (deps : List (List GapItem × Bytes)) (hwf : DepsWF deps) (trail : List GapItem) (D : UInt8) (R : Bytes)
    (hD : D = NL ∨ D = NUL) (a4 : At buf s4 (depsBytes deps ++ (gapBytes trail ++ D :: R))) :
    ∃ s5, At buf s5 (D :: R) ∧
      parseLoop (fuel + 1) pf s acc = parseLoop fuel pf s5 (addEntry acc t (deps.map (·.2))) := by
  obtain ⟨s5, h5, a5⟩ := readDeps_spec buf pf deps hwf trail D R pf s4 [] a4 hD (fuel_lt hpf _) (fuel_lt hpf _)
  refine ⟨s5, a5, ?_⟩
  conv => lhs; unfold parseLoop
  rw [h1]
  simp only []
  rw [h2]
  simp only []
  rw [h3]
  simp only []
  rcases h4 with ⟨hs, rfl⟩ | ⟨hs, rfl, hex⟩
  · rw [hs]
    simp only []
    rw [h5, List.nil_append]
  · rw [hs]
    simp only []
    rw [hex]
    simp only []
    rw [h5, List.nil_append]

/-- One iteration of `parse`'s main loop over an entry as written, whatever ends its line: a
    newline, or the end of the file (`D = NUL`: the last line has no final newline). -/
theorem entry_spec (buf : Array UInt8) (pf : Nat) (hpf : buf.size < pf) (e : FEntry) (hwfe : EntryWF e)
    (D : UInt8) (R : Bytes) (hD : D = NL ∨ D = NUL) (fuel : Nat) (s : Scanner) (acc : Entries) (pre : Bytes)
    (hpre : blankOk pre) (g : G buf s) (hr : Rest buf s.ofs (pre ++ (e.blank ++ entryCore e ++ D :: R)))
    (hf : buf.size - s.ofs < fuel + 1) :
    ∃ s5, G buf s5 ∧ Rest buf s5.ofs (D :: R) ∧ s.ofs < s5.ofs ∧
      parseLoop (fuel + 1) pf s acc = parseLoop fuel pf s5 (addEntry acc e.target (e.deps.map (·.2))) := by
  obtain ⟨hbl, htn, hts, hcol, hdw, hglued⟩ := hwfe
  -- wherever the entry ends, the loop has advanced
  have hadv : ∀ s5, At buf s5 (D :: R) → s.ofs < s5.ofs := fun s5 a5 =>
    At.ofs_lt (x := pre ++ (e.blank ++ entryCore e)) ⟨g, by rw [List.append_assoc]; exact hr⟩ a5
      (List.append_ne_nil_of_right_ne_nil _ (List.append_ne_nil_of_right_ne_nil _ (entryCore_ne_nil htn)))
  rw [List.append_assoc, entryCore_append, ← List.append_assoc] at hr
  obtain ⟨blank, target, colonSp, deps, trail⟩ := e
  obtain ⟨c0, t', rfl⟩ := List.exists_cons_of_ne_nil htn
  have hc0 := hts c0 List.mem_cons_self
  obtain ⟨s1, h1, a1⟩ := skipBlank_spec buf (pre ++ blank) (blankOk_append hpre hbl) pf s c0 _ ⟨g, hr⟩
    hc0.2.1 hc0.2.2.1 (fuel_lt hpf _)
  by_cases hcs : colonSp = 0
  · -- `target:` glued: the token read is `target:`, and the scanner's `skip_spaces` eats the
    -- leading spaces of what follows
    subst hcs
    have htok : ∀ c ∈ (c0 :: t') ++ [COLON], safe c := by
      intro c hc
      rcases List.mem_append.mp hc with h | h
      · exact hts c h
      · rw [List.mem_singleton.mp h]; exact colon_safe
    obtain ⟨s2, h2, a2⟩ := readPath_some buf [] ((c0 :: t') ++ [COLON]) _ (List.cons_ne_nil _ _) htok pf s1
      (by rw [List.append_assoc]; exact a1) (term_deps deps trail D R hD (hglued rfl)) (fuel_lt hpf _)
    obtain ⟨k, c', x', deps', trail', hsplit, hcne, hcx, hwf', hnames⟩ :=
      deps_leading_spaces deps hdw trail D R (by rcases hD with rfl | rfl <;> decide)
    rw [hsplit] at a2
    obtain ⟨s3, h3, a3⟩ := scanner_skipSpaces_at buf k pf s2 c' x' a2 hcne (fuel_lt hpf _)
    rw [hcx] at a3
    obtain ⟨s5, a5, heq⟩ := parseLoop_entry buf pf hpf (fuel := fuel) (acc := acc) h1 h2 h3
      (.inl ⟨stripColon_glued _, rfl⟩) deps' hwf' trail' D R hD a3
    exact ⟨s5, a5.g, a5.rest, hadv s5 a5, by rw [heq, hnames]⟩
  · -- spaces before the colon: the token read is `target`
    have hterm : Term (List.replicate colonSp SP ++ COLON :: (depsBytes deps ++ (gapBytes trail ++ D :: R))) := by
      obtain ⟨j, rfl⟩ := Nat.exists_eq_succ_of_ne_zero hcs
      exact .inr (.inl rfl)
    obtain ⟨s2, h2, a2⟩ := readPath_some buf [] (c0 :: t') _ htn hts pf s1 a1 hterm (fuel_lt hpf _)
    obtain ⟨s3, h3, a3⟩ := scanner_skipSpaces_at buf colonSp pf s2 COLON _ a2 (by decide) (fuel_lt hpf _)
    obtain ⟨s5, a5, heq⟩ := parseLoop_entry buf pf hpf (fuel := fuel) (acc := acc) h1 h2 h3
      (.inr ⟨stripColon_none _ (hcol (Nat.pos_of_ne_zero hcs)), rfl, a3.expect⟩) deps hdw trail D R hD
      (a3.step colon_inner)
    exact ⟨s5, a5.g, a5.rest, hadv s5 a5, heq⟩

theorem end_spec (buf : Array UInt8) (pf : Nat) (hpf : buf.size < pf) (eb : Bytes) (heb : blankOk eb)
    (fuel : Nat) (s : Scanner) (acc : Entries) (pre : Bytes) (hpre : blankOk pre) (g : G buf s)
    (hr : Rest buf s.ofs (pre ++ (eb ++ [NUL]))) (hf : buf.size - s.ofs < fuel) :
    ∃ s', parseLoop fuel pf s acc = .ok acc s' ∧ G buf s' ∧ Rest buf s'.ofs [NUL] := by
  obtain ⟨fuel, rfl⟩ := fuel_pos hf
  obtain ⟨s1, h1, a1⟩ := skipBlank_spec buf (pre ++ eb) (blankOk_append hpre heb) pf s NUL [] ⟨g, by
    rw [List.append_assoc]; exact hr⟩ (by decide) (by decide) (fuel_lt hpf _)
  obtain ⟨s2, h2, a2⟩ := readPath_none buf [] NUL [] (Or.inr rfl) pf s1 a1 (fuel_lt hpf _)
  refine ⟨s2, ?_, a2.g, a2.rest⟩
  unfold parseLoop
  rw [h1]
  simp only []
  rw [h2]

/-- The main loop over entries as written, followed by any tail `T` on which the loop is known to
    compute `F` (the end of the file, or a last entry without a final newline). -/
theorem parseLoop_spec_gen (buf : Array UInt8) (pf : Nat) (hpf : buf.size < pf) (T : Bytes) (F : Entries → Entries)
    (HT : ∀ (fuel : Nat) (s : Scanner) (acc : Entries) (pre : Bytes), blankOk pre → G buf s →
      Rest buf s.ofs (pre ++ T) → buf.size - s.ofs < fuel →
      ∃ s', parseLoop fuel pf s acc = .ok (F acc) s' ∧ G buf s' ∧ Rest buf s'.ofs [NUL])
    (es : List FEntry) : (∀ e ∈ es, EntryWF e) → ∀ (fuel : Nat) (s : Scanner) (acc : Entries) (pre : Bytes),
    blankOk pre → G buf s → Rest buf s.ofs (pre ++ bodyBytes es T) → buf.size - s.ofs < fuel →
    ∃ s', parseLoop fuel pf s acc = .ok (F ((entriesOf es).foldl (fun a e => addEntry a e.1 e.2) acc)) s' ∧
      G buf s' ∧ Rest buf s'.ofs [NUL] := by
  induction es with
  | nil =>
    intro _ fuel s acc pre hpre g hr hf
    exact HT fuel s acc pre hpre g hr hf
  | cons e es ih =>
    intro hwf fuel s acc pre hpre g hr hf
    obtain ⟨fuel, rfl⟩ := fuel_pos hf
    obtain ⟨s5, g5, hr5, hlt5, heq⟩ := entry_spec buf pf hpf e (hwf e List.mem_cons_self) NL (bodyBytes es T)
      (Or.inl rfl) fuel s acc pre hpre g hr hf
    obtain ⟨s', h', g', hr'⟩ := ih (fun x hx => hwf x (List.mem_cons_of_mem _ hx)) fuel s5
      (addEntry acc e.target (e.deps.map (·.2))) [NL] (fun c hc => Or.inr (List.mem_singleton.mp hc)) g5
      hr5 (fuel_succ g.lt hf hlt5)
    exact ⟨s', by rw [heq, h']; rfl, g', hr'⟩

theorem lastEntry_spec (buf : Array UInt8) (pf : Nat) (hpf : buf.size < pf) (e : FEntry) (hwfe : EntryWF e)
    (fuel : Nat) (s : Scanner) (acc : Entries) (pre : Bytes) (hpre : blankOk pre) (g : G buf s)
    (hr : Rest buf s.ofs (pre ++ (e.blank ++ entryCore e ++ [NUL]))) (hf : buf.size - s.ofs < fuel) :
    ∃ s', parseLoop fuel pf s acc = .ok (addEntry acc e.target (e.deps.map (·.2))) s' ∧ G buf s' ∧
      Rest buf s'.ofs [NUL] := by
  obtain ⟨fuel, rfl⟩ := fuel_pos hf
  obtain ⟨s5, g5, hr5, hlt5, heq⟩ := entry_spec buf pf hpf e hwfe NUL [] (Or.inr rfl) fuel s acc pre hpre g hr hf
  obtain ⟨s', h', g', hr'⟩ := end_spec buf pf hpf [] (fun c hc => by cases hc) fuel s5
    (addEntry acc e.target (e.deps.map (·.2))) [] (fun c hc => by cases hc) g5 hr5 (fuel_succ g.lt hf hlt5)
  exact ⟨s', by rw [heq, h'], g', hr'⟩

theorem parse_of_parseLoop (text : Bytes) (es : Entries)
    (h : ∀ (buf : Array UInt8) (pf : Nat) (s : Scanner), buf.size < pf → G buf s → Rest buf s.ofs (text ++ [NUL]) →
      ∃ s', parseLoop pf pf s [] = .ok es s' ∧ G buf s' ∧ Rest buf s'.ofs [NUL]) :
    ∃ s, parse text = .ok es s := by
  obtain ⟨s1, h1, g1, hr1⟩ := h _ ((text ++ [NUL]).toArray.size + 1) _ (Nat.lt_succ_self _) (At.start text).g (At.start text).rest
  unfold parse
  simp only []
  rw [new_nul]
  simp only []
  rw [h1]
  simp only []
  rw [At.expect ⟨g1, hr1⟩]
  exact ⟨_, rfl⟩

/-- **`depfile::parse` reads a depfile as the compiler wrote it**: for every list of entries
    `target: prereq ...` — any number of them, targets and prerequisites any non-empty runs of path
    bytes (colons and other punctuation included), any number of spaces before the colon, any gap
    of spaces and backslash-newline continuations before each prerequisite and after the last one,
    any blank space (spaces, empty lines) before, between and after the entries — the parser
    returns exactly those targets with exactly those prerequisites, in order (repeated targets
    merged by `addEntry`). -/
theorem parse_spec (es : List FEntry) (hwf : ∀ e ∈ es, EntryWF e) (eb : Bytes) (heb : blankOk eb) :
    ∃ s, parse (bodyBytes es eb) =
      .ok ((entriesOf es).foldl (fun a e => addEntry a e.1 e.2) []) s :=
  parse_of_parseLoop _ _ fun buf pf s hpf g hr =>
    parseLoop_spec_gen buf pf hpf (eb ++ [NUL]) id (end_spec buf pf hpf eb heb) es hwf pf s [] []
      (fun c hc => by cases hc) g (by rw [List.nil_append, ← bodyBytes_append]; exact hr)
      (fuel_lt hpf _)

/-- **... also when the last line has no final newline**: the same for a depfile whose last entry
    is followed directly by the end of the file (compilers and hand-written rules both produce
    this; n2's own `test_parse_without_final_newline`). -/
theorem parse_spec_no_final_newline (es : List FEntry) (hwf : ∀ e ∈ es, EntryWF e) (last : FEntry)
    (hl : EntryWF last) :
    ∃ s, parse (bodyBytes es (last.blank ++ entryCore last)) =
      .ok (addEntry ((entriesOf es).foldl (fun a e => addEntry a e.1 e.2) []) last.target (last.deps.map (·.2))) s :=
  parse_of_parseLoop _ _ fun buf pf s hpf g hr =>
    parseLoop_spec_gen buf pf hpf (last.blank ++ entryCore last ++ [NUL])
      (fun a => addEntry a last.target (last.deps.map (·.2))) (lastEntry_spec buf pf hpf last hl) es hwf pf s [] []
      (fun c hc => by cases hc) g (by rw [List.nil_append, ← bodyBytes_append]; exact hr)
      (fuel_lt hpf _)

/-- Recording an entry adds its prerequisites to the flattened list: at the end, or after those
    its target already had. -/
theorem flatten_addEntry_perm (es : Entries) (t : Bytes) (d : List Bytes) :
    (flatten (addEntry es t d)).Perm (flatten es ++ d) := by
  induction es with
  | nil => simp [addEntry, flatten]
  | cons e es ih =>
    obtain ⟨k, v⟩ := e
    unfold addEntry
    split
    · simp only [flatten, List.flatMap_cons, List.append_assoc]
      exact List.perm_append_comm.append_left v
    · simp only [flatten, List.flatMap_cons, List.append_assoc] at ih ⊢
      exact ih.append_left v

/-- Whatever the targets, the prerequisites recorded for a list of entries are those listed, up to
    order. -/
theorem flatten_foldl_addEntry_perm (l : Entries) : ∀ acc : Entries,
    (flatten (l.foldl (fun acc e => addEntry acc e.1 e.2) acc)).Perm (flatten acc ++ l.flatMap (·.2)) := by
  induction l with
  | nil => intro acc; simp
  | cons e l ih =>
    intro acc
    rw [List.foldl_cons, List.flatMap_cons, ← List.append_assoc]
    exact (ih _).trans ((flatten_addEntry_perm acc e.1 e.2).append_right _)

end N2V.Depfile
