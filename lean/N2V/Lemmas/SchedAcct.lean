/-
  Accounting: `tasks_run`, `tasks_failed` and the `-k` budget against the start/finish events
  of the trace.  Gives C19's final `ran N tasks` and C05's budget / exit-status clauses.
-/
import N2V.Lemmas.SchedSteps
namespace N2V.Sched

/-- The two moves of the ready loop, from the state before the pop. -/
theorem clean_frm {g : Graph} {s s1 : S} {id : Nat} {rest perm : List Nat}
    (h : readyDependents g { s with ready := rest } id perm = .ok s1) : Frame s s1 :=
  Frame.trans (a := s) (b := { s with ready := rest }) ⟨rfl, rfl, rfl, rfl⟩ (readyDependents_frm h)

theorem enqueue_frm {g : Graph} {s s1 : S} {id : Nat} {rest : List Nat}
    (h : enqueueRun g { s with ready := rest } id = .inl s1) : Frame s s1 := by
  obtain ⟨s2, pools, hs, -, rfl⟩ := enqueueRun_inl h
  have f1 : Frame s { s with ready := rest } := ⟨rfl, rfl, rfl, rfl⟩
  have f2 : Frame s2 { s2 with pools := pools } := ⟨rfl, rfl, rfl, rfl⟩
  exact (f1.trans (set_frm hs)).trans f2

/-- The accounting invariant (at the head of each iteration of `Work::run`). -/
structure AInv (k : Option Nat) (s : S) : Prop where
  run : s.tasksRun = succs (sf s.trace)
  failed : s.tasksFailed = fails (sf s.trace)
  left : match k with
    | none => s.failuresLeft = none
    | some k0 => s.failuresLeft = some (k0 - fails (sf s.trace)) ∧ fails (sf s.trace) < k0
  nointr : intr (sf s.trace) = false
  bt : bT k (sf s.trace) = true

theorem AInv.of_frame {k : Option Nat} {s s' : S} (a : AInv k s) (f : Frame s s') : AInv k s' := by
  refine ⟨by rw [f.tasksRun, f.sf]; exact a.run, by rw [f.tasksFailed, f.sf]; exact a.failed, ?_,
          by rw [f.sf]; exact a.nointr, by rw [f.sf]; exact a.bt⟩
  have := a.left
  cases k with
  | none => simp only [] at this ⊢; rw [f.failuresLeft]; exact this
  | some k0 => simp only [] at this ⊢; rw [f.failuresLeft, f.sf]; exact this

theorem AInv.budgetOk {k : Option Nat} {s : S} (a : AInv k s) : budgetOk k (sf s.trace) = true := by
  unfold Sched.budgetOk
  rw [a.nointr]
  have := a.left
  cases k with
  | none => rfl
  | some k0 => simp only [] at this ⊢; simp [this.2]

/-- Starting a command keeps the accounting and respects the budget. -/
theorem start_ainv {g : Graph} {k : Option Nat} {s s1 : S} {id : Nat} {pools : List Pool} (a : AInv k s)
    (h : set g { s with pools := pools } id .running = .ok s1) :
    AInv k { s1 with running := s1.running + 1, trace := Ev.start id :: s1.trace } := by
  have a1 : AInv k s1 := a.of_frame ((⟨rfl, rfl, rfl, rfl⟩ : Frame s { s with pools := pools }).trans (set_frm h))
  refine ⟨a1.run, a1.failed, ?_, a1.nointr, ?_⟩
  · have := a1.left
    cases k with
    | none => exact this
    | some k0 => exact this
  · show (budgetOk k (sf s1.trace) && bT k (sf s1.trace)) = true
    rw [a1.budgetOk, a1.bt]; rfl

/-- A command failed and the run goes on: the budget is counted down as `Work::run` does it. -/
theorem fail_ainv {k : Option Nat} {s : S} (a : AInv k s) (id : Nat) {fl : Option Nat}
    (hfl : Budget s.failuresLeft fl) :
    AInv k { waited s id .failure with failuresLeft := fl, tasksFailed := s.tasksFailed + 1 } := by
  refine ⟨a.run, ?_, ?_, a.nointr, a.bt⟩
  · show s.tasksFailed + 1 = fails (sf s.trace) + 1
    rw [a.failed]
  · have hleft := a.left
    cases k with
    | none =>
      rcases hfl with ⟨-, h⟩ | ⟨n, hn, -⟩
      · exact h.trans hleft
      · rw [show s.failuresLeft = none from hleft] at hn; cases hn
    | some k0 =>
      obtain ⟨h1, h2⟩ := hleft
      rcases hfl with ⟨hn, -⟩ | ⟨n, hn, hn0, hn1, rfl⟩
      · rw [hn] at h1; cases h1
      · rw [hn] at h1
        cases h1
        show some _ = some (k0 - (fails (sf s.trace) + 1)) ∧ fails (sf s.trace) + 1 < k0
        exact ⟨by congr 1, by omega⟩

theorem succ_ainv {k : Option Nat} {s : S} (a : AInv k s) (id : Nat) :
    AInv k { waited s id .success with tasksRun := s.tasksRun + 1 } := by
  refine ⟨?_, a.failed, ?_, a.nointr, a.bt⟩
  · show s.tasksRun + 1 = succs (sf s.trace) + 1
    rw [a.run]
  · have := a.left
    cases k with
    | none => exact this
    | some k0 => exact this

variable {E : Type} {g : Graph} {par : Nat} {c : Choices E} {k : Option Nat}

/-- **Accounting along `Work::run`**: every move keeps `tasks_run` equal to the number of
    successful commands so far and `tasks_failed` to the number of failed ones, and a `start`
    respects the `-k` budget and comes before any interruption. -/
theorem Step.ainv {s e s' e'} (h : Step g par c s e s' e') (a : AInv k s) : AInv k s' := by
  cases h with
  | update => exact a.of_frame ⟨rfl, rfl, rfl, rfl⟩
  | start _ _ _ h => exact start_ainv a h
  | clean _ _ _ h | adopt _ _ _ _ h =>
    exact a.of_frame (clean_frm h)
  | enqueue _ _ _ h => exact a.of_frame (enqueue_frm h)
  | failed _ _ hk h => exact (fail_ainv a _ hk).of_frame (set_frm h)
  | succeeded _ _ _ h => exact (succ_ainv a _).of_frame (readyDependents_frm h)

/-- Whatever way the run stops, the state it reports has no `start` beyond the budget. -/
theorem Ends.bt {s e s' e' r} (h : Ends g par c s e s' e' r) (a : AInv k s) :
    bT k (sf s'.trace) = true := by
  rcases h.shape with rfl | ⟨_, _, _, rfl⟩ | ⟨_, rest, _, h⟩ | ⟨_, _, _, _, rfl⟩
  · exact a.bt
  · exact a.bt
  · exact (a.of_frame (Frame.trans (a := s) (b := { s with ready := rest }) ⟨rfl, rfl, rfl, rfl⟩ (set_frm h))).bt
  · exact a.bt

end N2V.Sched
