/-
  Invariants that relate the environment to the set of `Done` builds, through `Work::run`.

  The scheduler only ever adds to the Done set the build whose check answered "clean" (or was
  adopted) or whose command just succeeded, and at that moment everything the build transitively
  depends on through ordering inputs is Done already.  So a joint invariant `J s e` of scheduler
  state and environment that (i) depends on `s` only through the Done set and (ii) is preserved
  by the environment operations under exactly those side conditions, is kept by every move of
  `Work::run` (`Step.done`), hence holds wherever a run or an invocation stops with an ordinary
  result.
-/
import N2V.Lemmas.SchedMoves
namespace N2V.Sched

def DoneEq (s s' : S) : Prop := ∀ b, s'.st b = .done ↔ s.st b = .done
def DoneAdd (s s' : S) (id : Nat) : Prop := ∀ b, s'.st b = .done ↔ (b = id ∨ s.st b = .done)

theorem DoneEq.refl (s : S) : DoneEq s s := fun _ => Iff.rfl
theorem DoneAdd.before {a b c : S} {id : Nat} (h1 : DoneEq a b) (h2 : DoneAdd b c id) : DoneAdd a c id :=
  fun x => (h2 x).trans (by rw [h1 x])

theorem DoneAdd.keep {s s' : S} {b : Nat} (da : DoneAdd s s' b) (x : Nat) (h : s.st x = .done) : s'.st x = .done :=
  (da x).mpr (Or.inr h)

theorem DoneAdd.new {s s' : S} {b : Nat} (da : DoneAdd s s' b) : s'.st b = .done := (da b).mpr (Or.inl rfl)

theorem DoneAdd.notDone {s s' : S} {b : Nat} (da : DoneAdd s s' b) {x : Nat} (hx : x ≠ b) (h : s.st x ≠ .done) :
    s'.st x ≠ .done := fun h' => ((da x).mp h').elim hx h

theorem set_doneEq {g : Graph} {s s' : S} {id : Nat} {new : St} (h : set g s id new = .ok s')
    (hn : new ≠ .done) (hid : s.st id ≠ .done) : DoneEq s s' := fun b => by
  by_cases e : b = id
  · subst e; simp [set_st_self h, hn, hid]
  · rw [set_st_ne h e]

theorem readyDependents_doneAdd {g : Graph} {s s' : S} {id : Nat} {perm : List Nat}
    (h : readyDependents g s id perm = .ok s') : DoneAdd s s' id := fun b => by
  rcases readyDependents_st h b with ⟨e, e'⟩ | ⟨e, e1, e2⟩ | ⟨e, e'⟩
  · subst e; simp [e']
  · simp [e, e1, e2]
  · simp [e, e']

theorem enqueueRun_doneEq {g : Graph} {s s1 : S} {id : Nat} (h : enqueueRun g s id = .inl s1)
    (hid : s.st id ≠ .done) : DoneEq s s1 := by
  obtain ⟨s2, pools, hs, -, rfl⟩ := enqueueRun_inl h
  exact fun b => set_doneEq hs (by decide) hid b

/-- Everything a gated build transitively depends on (through ordering inputs) is `Done`. -/
theorem Inv.anc_done {g : Graph} {par : Nat} {s : S} (inv : Inv g par s) {b p : Nat} (ha : Anc g b p)
    (hg : gated (s.st b)) : s.st p = .done :=
  ha.reach inv.ordered (fun _ hp => by simp [hp, gated]) hg

/-- What the environment operations must guarantee about a joint invariant `J`. -/
structure DoneSpec {E : Type} (g : Graph) (c : Choices E) (J : S → E → Prop) : Prop where
  ext : ∀ s s' e, DoneEq s s' → J s e → J s' e
  clean : ∀ s s' e b, J s e → s.st b ≠ .done → (∀ p, Anc g b p → s.st p = .done) →
    (c.check e b).1 = some false → DoneAdd s s' b → J s' (c.check e b).2
  dirty : ∀ s e b, J s e → s.st b ≠ .done → (∀ p, Anc g b p → s.st p = .done) →
    (c.check e b).1 = some true → J s (c.check e b).2
  adopt : ∀ s s' e b, J s e → s.st b ≠ .done → (∀ p, Anc g b p → s.st p = .done) →
    DoneAdd s s' b → J s' (c.onAdopt e b)
  success : ∀ s s' e b, J s e → s.st b ≠ .done → (∀ p, Anc g b p → s.st p = .done) →
    DoneAdd s s' b → J s' (c.onSuccess e b)

variable {E : Type} {g : Graph} {par : Nat} {c : Choices E} {J : S → E → Prop}

theorem Step.done (spec : DoneSpec g c J) {s e s' e'} (inv : Inv g par s) (j : J s e)
    (h : Step g par c s e s' e') : J s' e' := by
  -- the build at the head of the ready queue is not Done, everything it depends on is
  have ready : ∀ id rest, s.ready = id :: rest →
      s.st id ≠ .done ∧ ∀ p, Anc g id p → s.st p = .done := fun id rest hr => by
    have hst : s.st id = .ready := inv.readySt id (by simp [hr])
    exact ⟨by rw [hst]; simp, fun p ha => inv.anc_done ha (.inl hst)⟩
  cases h with
  | update => exact spec.ext s _ e (DoneEq.refl s) j
  | start _ _ hpop h =>
    refine spec.ext s _ e (fun b => ?_) j
    exact set_doneEq h (by decide) (by show s.st _ ≠ .done; rw [inv.popped_queued hpop]; simp) b
  | clean _ hr hc h =>
    obtain ⟨hnd, hanc⟩ := ready _ _ hr
    have := spec.clean s _ e _ j hnd hanc (by rw [hc]) (fun b => readyDependents_doneAdd h b)
    rwa [hc] at this
  | adopt _ hr hc _ h =>
    obtain ⟨hnd, hanc⟩ := ready _ _ hr
    have j1 := spec.dirty s e _ j hnd hanc (by rw [hc])
    rw [hc] at j1
    exact spec.adopt s _ _ _ j1 hnd hanc (fun b => readyDependents_doneAdd h b)
  | enqueue hr hc _ h =>
    obtain ⟨hnd, hanc⟩ := ready _ _ hr
    have j1 := spec.dirty s e _ j hnd hanc (by rw [hc])
    rw [hc] at j1
    exact spec.ext s _ _ (fun b => enqueueRun_doneEq h hnd b) j1
  | failed _ hst _ h =>
    refine spec.ext s _ e (fun b => ?_) j
    exact set_doneEq h (by decide) (by show s.st _ ≠ .done; rw [hst]; simp) b
  | succeeded _ _ hst h =>
    exact spec.success s _ e _ j (by rw [hst]; simp)
      (fun p ha => inv.anc_done ha (.inr (.inr (.inl hst)))) (fun b => readyDependents_doneAdd h b)

theorem Ends.done_ok (spec : DoneSpec g c J) {s e s' e'} {b : Bool} (h : Ends g par c s e s' e' (.ok b))
    (j : J s e) : J s' e' := by
  obtain ⟨rfl, hst⟩ := h.ok
  exact spec.ext s _ _ (fun x => by rw [hst]) j

/-- The joint invariant holds of what a run reports with an ordinary result. -/
theorem RunPost.done (spec : DoneSpec g c J) {s e} {o : RunOut E} (h : RunPost g par c s e o)
    (inv : Inv g par s) (j : J s e) {b : Bool} (hr : o.result = .ok b) : J o.s o.e := by
  obtain ⟨s', e', hs, he⟩ := h
  rw [hr] at he
  exact he.done_ok spec (hs.induct inv j fun i j st => st.done spec i j)

/-- **The joint invariant holds whenever `Work::run` returns success.** -/
theorem runLoop_done {E : Type} {g : Graph} {par : Nat} (c : Choices E) (J : S → E → Prop)
    (spec : DoneSpec g c J) (fuel : Nat) : ∀ (s : S) (e : E) (perms : List (List Nat)) (fin : List (Nat × Term)),
    Inv g par s → J s e → (runLoop g par c fuel s e perms fin).result = .ok true →
    J (runLoop g par c fuel s e perms fin).s (runLoop g par c fuel s e perms fin).e :=
  fun s e perms fin inv j h => (runLoop_spec fuel s e perms fin).done spec inv j h

end N2V.Sched

namespace N2V.Run
open N2V N2V.Sched
variable {E : Type} {g : Graph} {a : Args} {c : Choices E} {J : S → E → Prop}

theorem WRel.doneEq {g : Graph} {par : Nat} {s s' : S} (r : WRel g par s s') : DoneEq s s' := by
  intro b
  by_cases hu : s.st b = .unknown
  · rcases r.mono b hu with h | h | h <;> simp [h, hu]
  · rw [r.frame b hu]

/-- The joint invariant holds of what an invocation returns when it reports success or an
    ordinary failure. -/
theorem Runs.done (gok : GraphOK g) (spec : DoneSpec g c J) {tb : Nat} {s : S} {e : E}
    {r : S × E × Outcome} (h : Runs g a c tb s e r) (inv : Inv g a.par s) (j : J s e)
    (hr : (∃ n, r.2.2 = .done n) ∨ r.2.2 = .failed) : J r.1 r.2.1 := by
  obtain ⟨s', e', hm, hst⟩ := h
  have j' : J s' e' := hm.induct gok inv j
    (fun e i j _ h => spec.ext _ _ e (WRel.doneEq (want_inv gok _ _ _ i h)) j) (fun i j st => st.done spec i j)
  cases hst with
  | wantErr | unknown | panic | reload => simp at hr
  | done h => exact h.done_ok spec j'
  | other h =>
    obtain ⟨b, rfl⟩ := ofRun_failed (hr.resolve_left (fun ⟨n, h⟩ => ofRun_ne_done _ n h))
    exact h.done_ok spec j'

/-- The joint invariant at the end of a successful `run::build` (no reload). -/
theorem build_done {E : Type} {g : Graph} (gok : GraphOK g) (a : Args) (c : Choices E) (J : S → E → Prop)
    (spec : DoneSpec g c J) (e : E) (hj : J (fresh a) e) (n : Nat)
    (h : (build g a c e).2.2 = .done n) : J (build g a c e).1 (build g a c e).2.1 :=
  (build_runs g a c e).done gok spec (fresh_inv g a) hj (.inl ⟨n, h⟩)

end N2V.Run
