import N2V.Model.Work
namespace N2V.Work
open N2V N2V.Load

theorem find?_filter_fst {κ : Type _} {β : Type _} [BEq κ] [LawfulBEq κ] (l : List (κ × β)) {k k' : κ}
    (h : k' ≠ k) :
    (l.filter (fun p => p.1 != k)).find? (fun p => p.1 == k') = l.find? (fun p => p.1 == k') := by
  rw [List.find?_filter]
  congr 1
  funext p
  by_cases hp : p.1 = k' <;> simp [hp, h]

theorem assocGet_assocPut {β} (m : List (Nat × β)) (k k' : Nat) (v : β) :
    assocGet (assocPut m k v) k' = if k' = k then some v else assocGet m k' := by
  unfold assocGet assocPut
  by_cases h : k' = k
  · simp [h]
  · rw [List.find?_cons_of_neg (by simpa using fun e => h e.symm), find?_filter_fst _ h, if_neg h]

theorem assocGet_put_self {β} (m : List (Nat × β)) (k : Nat) (v : β) : assocGet (assocPut m k v) k = some v := by
  rw [assocGet_assocPut, if_pos rfl]

theorem assocGet_put_other {β} (m : List (Nat × β)) (k k' : Nat) (v : β) (h : k' ≠ k) :
    assocGet (assocPut m k v) k' = assocGet m k' := by
  rw [assocGet_assocPut, if_neg h]

theorem FsM.get_put_other (fs : FsM) (n m : Bytes) (i : FileInfo) (h : m ≠ n) : (FsM.put fs n i).get m = fs.get m := by
  unfold FsM.put FsM.get FsM.del
  rw [List.find?_append, find?_filter_fst _ h, List.find?_cons_of_neg (by simpa using fun e => h e.symm)]
  simp

@[simp] theorem statFile_log (e : Env) (f : Nat) : (statFile e f).2.log = e.log := rfl
@[simp] theorem statFile_g (e : Env) (f : Nat) : (statFile e f).2.g = e.g := rfl
@[simp] theorem statFile_disc (e : Env) (f : Nat) : (statFile e f).2.disc = e.disc := rfl
@[simp] theorem statFile_fs (e : Env) (f : Nat) : (statFile e f).2.fs = e.fs := rfl
@[simp] theorem statFile_hashes (e : Env) (f : Nat) : (statFile e f).2.hashes = e.hashes := rfl

structure SameButCache (a b : Env) : Prop where
  log : b.log = a.log
  g : b.g = a.g
  disc : b.disc = a.disc
  fs : b.fs = a.fs
  hashes : b.hashes = a.hashes
  clock : b.clock = a.clock

theorem SameButCache.refl (a : Env) : SameButCache a a := ⟨rfl, rfl, rfl, rfl, rfl, rfl⟩
theorem SameButCache.trans {a b c : Env} (h1 : SameButCache a b) (h2 : SameButCache b c) : SameButCache a c :=
  ⟨h2.log.trans h1.log, h2.g.trans h1.g, h2.disc.trans h1.disc, h2.fs.trans h1.fs,
   h2.hashes.trans h1.hashes, h2.clock.trans h1.clock⟩

theorem statFile_same (e : Env) (f : Nat) : SameButCache e (statFile e f).2 := ⟨rfl, rfl, rfl, rfl, rfl, rfl⟩

theorem discOf_same {a b : Env} (h : SameButCache a b) (x : Nat) : discOf b x = discOf a x := by
  unfold discOf; rw [h.disc]

theorem discOf_assocPut {e : Env} {d : List (Nat × List Nat)} {b : Nat} {l : List Nat} (h : e.disc = assocPut d b l)
    (x : Nat) : discOf e x = if x = b then l else (assocGet d x).getD [] := by
  unfold discOf
  rw [h, assocGet_assocPut]
  split <;> rfl

theorem idFromCanonical_grows (g : GraphM) (name : Bytes) :
    (idFromCanonical g name).1.builds = g.builds ∧ g.files <+: (idFromCanonical g name).1.files := by
  unfold idFromCanonical
  split
  · exact ⟨rfl, List.prefix_refl _⟩
  · exact ⟨rfl, List.prefix_append _ _⟩

/-- Induction along `keepDeps`, for a property of the state and the list kept so far: `hskip` is
    the interned name that is dropped, `hkeep` the one whose id is appended. -/
theorem keepDeps_induct {P : Env → List Nat → Prop} (dirtying : List Nat)
    (hskip : ∀ e acc c, P e acc → P (intern e c).1 acc)
    (hkeep : ∀ e acc c, P e acc → (intern e c).2 ∉ acc → (intern e c).2 ∉ dirtying →
      P (intern e c).1 (acc ++ [(intern e c).2]))
    (ns : List Bytes) (e : Env) (acc : List Nat) (h : P e acc) :
    P (keepDeps e dirtying ns acc).1 (keepDeps e dirtying ns acc).2 := by
  fun_induction keepDeps e dirtying ns acc with
  | case1 => exact h
  | case2 _ _ _ _ _ ih => exact ih h
  | case3 e _ _ acc _ c _ _ ih => exact ih (hskip e acc c h)
  | case4 e _ _ acc _ c _ hcond ih =>
    simp only [Bool.or_eq_true, List.contains_eq_mem, decide_eq_true_eq, not_or] at hcond
    exact ih (hkeep e acc c h hcond.1 hcond.2)
  | case5 _ _ _ _ _ _ ih => exact ih h

theorem keepDeps_env (dirtying : List Nat) (ns : List Bytes) (e : Env) (acc : List Nat) :
    ∃ g', (keepDeps e dirtying ns acc).1 = { e with g := g' } ∧ g'.builds = e.g.builds ∧ e.g.files <+: g'.files := by
  have step : ∀ (e1 : Env) (c : Bytes), (∃ g', e1 = { e with g := g' } ∧ g'.builds = e.g.builds ∧ e.g.files <+: g'.files) →
      ∃ g', (intern e1 c).1 = { e with g := g' } ∧ g'.builds = e.g.builds ∧ e.g.files <+: g'.files := by
    rintro _ c ⟨g1, rfl, h2, h3⟩
    exact ⟨_, rfl, (idFromCanonical_grows g1 c).1.trans h2, h3.trans (idFromCanonical_grows g1 c).2⟩
  exact keepDeps_induct (P := fun e1 _ => ∃ g', e1 = { e with g := g' } ∧ g'.builds = e.g.builds ∧ e.g.files <+: g'.files)
    dirtying (fun e1 _ c => step e1 c) (fun e1 _ c h _ _ => step e1 c h) ns e acc ⟨e.g, rfl, rfl, List.prefix_refl _⟩

theorem keepDeps_frame (dirtying : List Nat) (ns : List Bytes) (e : Env) (acc : List Nat) :
    (keepDeps e dirtying ns acc).1.log = e.log ∧ (keepDeps e dirtying ns acc).1.fs = e.fs ∧
    (keepDeps e dirtying ns acc).1.disc = e.disc ∧ (keepDeps e dirtying ns acc).1.hashes = e.hashes ∧
    (keepDeps e dirtying ns acc).1.cache = e.cache ∧ (keepDeps e dirtying ns acc).1.clock = e.clock := by
  obtain ⟨g', h, _⟩ := keepDeps_env dirtying ns e acc
  rw [h]
  exact ⟨rfl, rfl, rfl, rfl, rfl, rfl⟩

theorem recordFinished_none {e : Env} {b : Nat} (h : buildOf e.g b = none) (deps : Option (List Bytes)) :
    recordFinished e b deps = e := by
  unfold recordFinished; rw [h]

theorem recordFinished_some {e : Env} {b : Nat} {bm : BuildM} (hb : buildOf e.g b = some bm)
    {deps : Option (List Bytes)} {miss : Bool} {out : Option Nat} {r : Env} (hr : restat e bm b deps = (miss, out, r)) :
    recordFinished e b deps =
      { r with log := if miss || out.isSome then r.log
          else r.log ++ [⟨bm.outs.map (fileName r.g), (discOf r b).map (fileName r.g), manifestOf r bm b⟩] } := by
  unfold recordFinished; rw [hb]; simp only [hr]
  split <;> rfl

theorem onSuccess_none {e : Env} {b : Nat} (h : buildOf e.g b = none) : onSuccess e b = e := by
  unfold onSuccess; rw [h]

theorem onSuccess_some {e : Env} {b : Nat} {bm : BuildM} (h : buildOf e.g b = some bm) :
    onSuccess e b = recordFinished (runCommand e b) b (if readsDeps bm then some (reportedDeps e bm) else none) := by
  unfold onSuccess; rw [h]

def producerByName (g : GraphM) (n : Bytes) : Option Nat :=
  (g.files.find? (fun f => f.name == n)).bind (·.input)

/-- Interning a list of names, as `applyLog` does for a record's dependency list. -/
def internAll (e : Env) (ns : List Bytes) : Env × List Nat :=
  ns.foldl (fun (acc : Env × List Nat) n =>
    let (e', i) := intern acc.1 n
    (e', acc.2 ++ [i])) (e, [])

theorem applyLog_cons (e : Env) (r : Rec) (rs : List Rec) :
    applyLog e (r :: rs) =
      match Db.attributeRec (producerByName e.g) r.outs with
      | some b =>
        applyLog { (internAll e r.deps).1 with
          disc := assocPut (internAll e r.deps).1.disc b (internAll e r.deps).2,
          hashes := assocPut (internAll e r.deps).1.hashes b r.hash } rs
      | none => applyLog e rs := by
  rfl

theorem internAll_induct {P : Env → Prop} (hi : ∀ e n, P e → P (intern e n).1) (ns : List Bytes) (e : Env) (h : P e) :
    P (internAll e ns).1 := by
  have key : ∀ (acc : Env × List Nat), P acc.1 → P (ns.foldl (fun (acc : Env × List Nat) n =>
      let (e', i) := intern acc.1 n
      (e', acc.2 ++ [i])) acc).1 := by
    induction ns with
    | nil => exact fun _ h => h
    | cons n ns ih => exact fun acc h => ih _ (hi acc.1 n h)
  exact key (e, []) h

/-- Induction along start-up: it only interns names and replaces remembered lists and signatures. -/
theorem applyLog_induct {P : Env → Prop} (hi : ∀ e n, P e → P (intern e n).1)
    (hs : ∀ e d h, P e → P { e with disc := d, hashes := h }) (rs : List Rec) : ∀ e, P e → P (applyLog e rs) := by
  induction rs with
  | nil => exact fun _ h => h
  | cons r rs ih =>
    intro e h
    rw [applyLog_cons]
    split
    · exact ih _ (hs _ _ _ (internAll_induct hi r.deps e h))
    · exact ih e h

theorem loadEnv_ok_iff {w : World} {m : Bytes} {l : Loader} {e0 : Env} :
    loadEnv w m = .ok (l, e0) ↔
      Load.load (fun n => (w.fs.get n).map (·.content)) m = .ok l ∧
      e0 = applyLog { g := l.graph, disc := [], hashes := [], cache := [], fs := w.fs, clock := w.clock, log := w.log }
        w.log := by
  unfold loadEnv
  simp only []
  generalize Load.load (fun n => (w.fs.get n).map (·.content)) m = r
  cases r with
  | error x => exact ⟨nofun, fun h => nomatch h.1⟩
  | ok l' =>
    constructor
    · intro h; cases h; exact ⟨rfl, rfl⟩
    · rintro ⟨h1, rfl⟩; cases h1; rfl

theorem sg_producer (g : GraphM) (f : Nat) : (schedGraph g).producer f = fileInput g f := by
  show (g.files.toArray[f]?).bind (·.input) = _
  rw [List.getElem?_toArray]; rfl

theorem sg_build (g : GraphM) (b : Nat) (bm : BuildM) (h : buildOf g b = some bm) :
    (schedGraph g).build b =
      ⟨bm.ins.take (bm.explicit + bm.implicit + bm.orderOnly), bm.ins.drop (bm.explicit + bm.implicit + bm.orderOnly),
       bm.outs, bm.cmdline.isNone, bm.pool.getD []⟩ := by
  show (match g.builds.toArray[b]? with | some b => _ | none => default) = _
  rw [List.getElem?_toArray, show g.builds[b]? = some bm from h]

theorem sg_outs (g : GraphM) (b : Nat) (bm : BuildM) (h : buildOf g b = some bm) :
    ((schedGraph g).build b).outs = bm.outs := by
  rw [sg_build g b bm h]

theorem sg_ordering (g : GraphM) (b : Nat) (bm : BuildM) (h : buildOf g b = some bm) :
    ((schedGraph g).build b).ordering = bm.ins.take (bm.explicit + bm.implicit + bm.orderOnly) := by
  rw [sg_build g b bm h]

theorem sg_nBuilds (g : GraphM) : (schedGraph g).nBuilds = g.builds.length := rfl

theorem dirtying_sub_ordering (bm : BuildM) (f : Nat) (h : f ∈ bm.dirtying) :
    f ∈ bm.ins.take (bm.explicit + bm.implicit + bm.orderOnly) :=
  List.take_subset_take_left bm.ins (Nat.le_add_right _ _) h

end N2V.Work
