import N2V.TraceSpec
import N2V.Lemmas.SchedInv
namespace N2V.Sched

theorem insertPool_names (ps : List Pool) (n : Bytes) (d : Nat) :
    (insertPool ps n d).map (·.name) =
      if n ∈ ps.map (·.name) then ps.map (·.name) else ps.map (·.name) ++ [n] := by
  induction ps with
  | nil => simp [insertPool]
  | cons p rest ih =>
    unfold insertPool
    by_cases hn : p.name = n
    · simp [hn]
    · simp only [if_neg hn, List.map_cons, ih, List.mem_cons, Ne.symm hn, false_or]
      split <;> rfl

theorem insertPool_nodup (ps : List Pool) (n : Bytes) (d : Nat)
    (h : (ps.map (·.name)).Nodup) : ((insertPool ps n d).map (·.name)).Nodup := by
  rw [insertPool_names]
  split
  · exact h
  · rename_i hn
    exact List.nodup_append.mpr ⟨h, by simp, fun a ha b hb e => hn (by simp at hb; rw [← hb, ← e]; exact ha)⟩

theorem insertPool_fresh (ps : List Pool) (n : Bytes) (d : Nat) :
    ∀ p ∈ insertPool ps n d, p ∈ ps ∨ (p.queued = [] ∧ p.running = 0) := by
  induction ps with
  | nil => intro p hp; simp [insertPool] at hp; subst hp; exact Or.inr ⟨rfl, rfl⟩
  | cons a rest ih =>
    intro p hp
    unfold insertPool at hp
    split at hp
    · simp at hp; rcases hp with rfl | hp
      · exact Or.inr ⟨rfl, rfl⟩
      · exact Or.inl (by simp [hp])
    · simp at hp; rcases hp with rfl | hp
      · exact Or.inl (by simp)
      · rcases ih p hp with h | h
        · exact Or.inl (by simp [h])
        · exact Or.inr h

theorem initPools_spec (declared : List (Bytes × Nat)) :
    ((initPools declared).map (·.name)).Nodup ∧ ∀ p ∈ initPools declared, p.queued = [] ∧ p.running = 0 := by
  unfold initPools
  have key : ∀ (l : List (Bytes × Nat)) (ps : List Pool),
      (ps.map (·.name)).Nodup → (∀ p ∈ ps, p.queued = [] ∧ p.running = 0) →
      ((l.foldl (fun ps d => insertPool ps d.1 d.2) ps).map (·.name)).Nodup ∧
      ∀ p ∈ l.foldl (fun ps d => insertPool ps d.1 d.2) ps, p.queued = [] ∧ p.running = 0 := by
    intro l
    induction l with
    | nil => intro ps h1 h2; exact ⟨h1, h2⟩
    | cons d l ih =>
      intro ps h1 h2
      simp only [List.foldl_cons]
      apply ih
      · exact insertPool_nodup ps d.1 d.2 h1
      · intro p hp
        rcases insertPool_fresh ps d.1 d.2 p hp with h | h
        · exact h2 p h
        · exact h
  apply key
  · decide
  · intro p hp; simp at hp; rcases hp with rfl | rfl <;> exact ⟨rfl, rfl⟩

/-- The state `BuildStates::new` + `Runner::new` build satisfies the invariant. -/
theorem init_inv (g : Graph) (par : Nat) (declared : List (Bytes × Nat)) (k : Option Nat) :
    Inv g par (init declared k) := by
  have hp := initPools_spec declared
  refine { valid := ?_, readySt := ?_, readyNodup := ?_, poolNames := hp.1, queuedSt := ?_,
           queuedNodup := ?_, poolRunning := ?_, counts := ?_, pending := ?_, ordered := ?_,
           running := ?_, parBound := ?_, depthBound := ?_ }
  · intro b hb; simp [init] at hb
  · intro id hid; simp [init] at hid
  · simp [init]
  · intro p hp' id hid; simp [init] at hp'; rw [(hp.2 p hp').1] at hid; simp at hid
  · intro p hp'; simp [init] at hp'; rw [(hp.2 p hp').1]; simp
  · intro p hp'; simp [init] at hp' ⊢; rw [(hp.2 p hp').2, cnt_eq_zero_iff.mpr]; · rfl
    intro b _; rfl
  · intro x hx
    simp only [init]
    rw [cnt_eq_zero_iff.mpr]
    · cases x <;> simp_all [Counts.get]
    · intro b _; cases x <;> simp_all
  · simp only [init]; rw [cnt_eq_zero_iff.mpr]; · rfl
    intro b _; rfl
  · intro b hb; simp [init, gated] at hb
  · simp only [init]; rw [cnt_eq_zero_iff.mpr]; · rfl
    intro b _; rfl
  · simp [init]
  · intro p hp' _; simp [init] at hp'; rw [(hp.2 p hp').2]; omega

/-- `recheck_ready` (and the trace specification's `directDone`, which has the same body)
    answers true exactly if every producer of an ordering input is `Done`. -/
theorem directDone_iff {g : Graph} {st : Nat → St} {b : Nat} :
    directDone g st b = true ↔ ∀ f ∈ (g.build b).ordering, ∀ p, g.producer f = some p → st p = .done := by
  unfold directDone
  rw [List.all_eq_true]
  refine forall₂_congr fun f _ => ?_
  cases g.producer f <;> simp

theorem recheckReady_iff {g : Graph} {s : S} {id : Nat} :
    recheckReady g s id = true ↔
      ∀ f ∈ (g.build id).ordering, ∀ p, g.producer f = some p → s.st p = .done :=
  directDone_iff (st := s.st)

end N2V.Sched
