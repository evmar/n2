/-
  `run::build` when every dirtiness check answers "clean": no command starts in either phase, no
  reload is requested, and a successful outcome reports 0 tasks ("no work to do").
-/
import N2V.Lemmas.SchedClean
namespace N2V.Run
open N2V N2V.Sched

theorem fresh_quiet (a : Args) : Quiet (fresh a) :=
  ⟨rfl, fun _ => ⟨by simp [fresh, init], by simp [fresh, init]⟩,
   popQueued_eq_none.mpr fun p hp _ => ((initPools_spec a.pools).2 p hp).1⟩

variable {E : Type} {g : Graph} {a : Args} {c : Choices E} {P : E → Prop} {D : E → Nat → Prop}

/-- An idle configuration stays idle, and nothing starts or finishes, along an invocation whose
    checks answer "clean" once the producers have been checked. -/
theorem Moves.idle (gok : GraphOK g) (hD : CleanCheck g c P D (Wanted g a)) {s e s' e'}
    (inv : Inv g a.par s) (i : Idle P D (Wanted g a) s e) (h : Moves g a c s e s' e') :
    Idle P D (Wanted g a) s' e' ∧ Frame s s' := by
  refine h.induct gok (P := fun s' e' => Idle P D (Wanted g a) s' e' ∧ Frame s s') inv ⟨i, .refl s⟩ ?_ ?_
  · intro s1 f s2 e1 inv1 ⟨i1, f1⟩ hf hw
    exact ⟨⟨(want_quiet g s1 f i1.quiet).of_ok hw, i1.env,
      fun p hp => i1.known p ((WRel.doneEq (want_inv gok _ _ _ inv1 hw) p).mp hp),
      fun b hb => (want_touch_ok hw b hb).elim (i1.within b) fun hn => ⟨f, hf, hn⟩⟩,
      f1.trans ((want_frame g s1 f).of_ok hw)⟩
  · intro s1 e1 s2 e2 inv1 ⟨i1, f1⟩ st
    obtain ⟨i2, f2⟩ := st.idle hD i1 (i1.ready inv1)
    exact ⟨i2, f1.trans f2⟩

/-- The same for checks that answer "clean" unconditionally; no assumption on the graph. -/
theorem Moves.quiet (hP : ∀ e b, P e → (c.check e b).1 = some false ∧ P (c.check e b).2) {s e s' e'}
    (h : Moves g a c s e s' e') (q : Quiet s) (pe : P e) : Quiet s' ∧ P e' ∧ Frame s s' := by
  induction h with
  | refl => exact ⟨q, pe, .refl _⟩
  | @head s e s1 e1 _ _ m _ ih =>
    have h1 : Quiet s1 ∧ P e1 ∧ Frame s s1 := by
      cases m with
      | @want f _ _ _ hw => exact ⟨(want_quiet g s f q).of_ok hw, pe, (want_frame g s f).of_ok hw⟩
      | step st =>
        obtain ⟨i1, f1⟩ := st.idle (.of_always hP) ⟨q, pe, fun _ _ => trivial, fun _ _ => trivial⟩
          (fun _ _ _ => ⟨trivial, fun _ _ => trivial⟩)
        exact ⟨i1.quiet, i1.env, f1⟩
    obtain ⟨q2, p2, f2⟩ := ih h1.1 h1.2.1
    exact ⟨q2, p2, h1.2.2.trans f2⟩

/-- What an invocation returns when it stops in an idle configuration reached from the fresh
    state without starting anything. -/
theorem Stops.idle {W : Nat → Prop} (hD : CleanCheck g c P D W) {tb : Nat} {s : S} {e : E}
    {r : S × E × Outcome} (i : Idle P D W s e)
    (hrdy : ∀ id rest, s.ready = id :: rest → W id ∧ ∀ p, Anc g id p → D e p)
    (f0 : Frame (fresh a) s) (h : Stops g a c tb s e r) :
    sf r.1.trace = [Ev.load] ∧ r.1.tasksRun = 0 ∧ P r.2.1 ∧
    (∀ n, r.2.2 = .done n → n = tb) ∧ (∀ n, r.2.2 ≠ .reload n) := by
  have h0 : s.tasksRun = 0 := f0.tasksRun
  have key : P r.2.1 ∧ Frame s r.1 ∧ (∀ n, r.2.2 = .done n → n = tb) ∧ ∀ n, r.2.2 ≠ .reload n := by
    cases h with
    | @wantErr f _ _ _ _ hw => exact ⟨i.env, (want_frame g s f).of_err hw, nofun, nofun⟩
    | unknown | panic => exact ⟨i.env, .refl s, nofun, nofun⟩
    | reload he hn => exact absurd ((he.idle hD i hrdy).2.tasksRun.trans h0) hn
    | done he =>
      obtain ⟨i2, f⟩ := he.idle hD i hrdy
      refine ⟨i2.env, f, fun n hn => ?_, nofun⟩
      cases hn
      rw [f.tasksRun, h0]; rfl
    | other he =>
      obtain ⟨i2, f⟩ := he.idle hD i hrdy
      exact ⟨i2.env, f, fun n hn => absurd hn (ofRun_ne_done _ n), ofRun_ne_reload _⟩
  obtain ⟨pe, f, hd, hr⟩ := key
  exact ⟨(f0.trans f).sf, (f0.trans f).tasksRun, pe, hd, hr⟩

/-- **When every check answers "clean", `run::build` runs nothing**: no start or finish event in
    the whole trace, no reload, and a successful outcome reports 0 tasks. -/
theorem build_clean {E : Type} (g : Graph) (a : Args) (c : Choices E) (P : E → Prop)
    (hP : ∀ e b, P e → (c.check e b).1 = some false ∧ P (c.check e b).2) (e : E) (pe : P e) :
    sf (build g a c e).1.trace = [Ev.load] ∧ (build g a c e).1.tasksRun = 0 ∧ P (build g a c e).2.1 ∧
    (∀ n, (build g a c e).2.2 = .done n → n = 0) ∧ (∀ n, (build g a c e).2.2 ≠ .reload n) := by
  obtain ⟨s', e', hm, hst⟩ := build_runs g a c e
  obtain ⟨q, pe', f⟩ := hm.quiet hP (fresh_quiet a) pe
  exact hst.idle (.of_always hP) ⟨q, pe', fun _ _ => trivial, fun _ _ => trivial⟩
    (fun _ _ _ => ⟨trivial, fun _ _ => trivial⟩) f

/-- **`run::build` runs nothing when every step is found clean once its producers have been
    checked**: no start or finish event, no reload, `done 0` when it succeeds. -/
theorem build_clean2 {E : Type} (g : Graph) (gok : GraphOK g) (a : Args) (c : Choices E) (P : E → Prop)
    (D : E → Nat → Prop) (hD : CleanCheck g c P D (Wanted g a)) (e : E) (pe : P e) :
    sf (build g a c e).1.trace = [Ev.load] ∧ (build g a c e).1.tasksRun = 0 ∧ P (build g a c e).2.1 ∧
    (∀ n, (build g a c e).2.2 = .done n → n = 0) ∧ (∀ n, (build g a c e).2.2 ≠ .reload n) := by
  obtain ⟨s', e', hm, hst⟩ := build_runs g a c e
  have i0 : Idle P D (Wanted g a) (fresh a) e := ⟨fresh_quiet a, pe, nofun, fun b hb => absurd rfl hb⟩
  obtain ⟨i, f⟩ := hm.idle gok hD (fresh_inv g a) i0
  exact hst.idle hD i (i.ready (hm.inv gok (fresh_inv g a))) f

end N2V.Run
