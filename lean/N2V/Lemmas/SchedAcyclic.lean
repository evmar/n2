/-
  Completeness of the cycle diagnosis (C06): when `Work::want_file` succeeds, no build it marked
  lies on a cycle of ordering edges.  `want_build` marks a build only AFTER its ordering inputs
  have been walked (post-order), so at that moment every ordering ancestor is marked already and
  the build itself is not - which excludes a path back to it.
-/
import N2V.Lemmas.SchedClosure
namespace N2V.Sched

/-- Marked builds have their ordering producers marked. -/
def ClosedO (g : Graph) (s : S) : Prop :=
  ∀ b, s.st b ≠ .unknown → ∀ f ∈ (g.build b).ordering, ∀ p, g.producer f = some p → s.st p ≠ .unknown

/-- No marked build is its own ordering ancestor. -/
def AcycM (g : Graph) (s : S) : Prop := ∀ b, s.st b ≠ .unknown → ¬ Anc g b b

structure AI (g : Graph) (s : S) : Prop where
  closed : ClosedO g s
  acyc : AcycM g s

theorem closed_anc {g : Graph} {s : S} (hc : ClosedO g s) {b p : Nat} (ha : Anc g b p) :
    s.st b ≠ .unknown → s.st p ≠ .unknown :=
  ha.reach hc fun _ h => h

theorem anc_first {g : Graph} {b c : Nat} (ha : Anc g b c) :
    ∃ f p, f ∈ (g.build b).ordering ∧ g.producer f = some p ∧ (p = c ∨ Anc g p c) := by
  induction ha with
  | direct hf hp => exact ⟨_, _, hf, hp, Or.inl rfl⟩
  | step _ h2 ih1 _ =>
    obtain ⟨f, p, hf, hp, h⟩ := ih1
    rcases h with rfl | h
    · exact ⟨f, _, hf, hp, Or.inr h2⟩
    · exact ⟨f, p, hf, hp, Or.inr (Anc.step h h2)⟩

/-- Marking a build whose ordering producers are all marked keeps the invariant. -/
theorem ai_mark {g : Graph} {s1 s2 : S} {id : Nat} {state : St} (h : AI g s1) (hst : s2.st = upd s1.st id state)
    (hne : state ≠ .unknown)
    (hprod : ∀ f ∈ (g.build id).ordering, ∀ p, g.producer f = some p → s1.st p ≠ .unknown) : AI g s2 := by
  have mono : ∀ b, s1.st b ≠ .unknown → s2.st b ≠ .unknown := by
    intro b hb; rw [hst]; unfold upd; by_cases e : b = id
    · simp [e, hne]
    · simp [e, hb]
  have old : ∀ b, b ≠ id → s2.st b ≠ .unknown → s1.st b ≠ .unknown := by
    intro b hb h2; rw [hst] at h2; unfold upd at h2; simpa [hb] using h2
  refine ⟨?_, ?_⟩
  · intro b hb f hf p hp
    by_cases e : b = id
    · subst e; exact mono p (hprod f hf p hp)
    · exact mono p (h.closed b (old b e hb) f hf p hp)
  · intro b hb ha
    by_cases e : b = id
    · subst e
      by_cases hm : s1.st b ≠ .unknown
      · exact h.acyc b hm ha
      · obtain ⟨f, p, hf, hp, hc⟩ := anc_first ha
        have hpm := hprod f hf p hp
        rcases hc with rfl | hc
        · exact hm hpm
        · exact hm (closed_anc h.closed hc hpm)
    · exact h.acyc b (old b e hb) ha

def AF (g : Graph) (f : Nat) : WR Bool → Prop
  | .ok _ s' => AI g s' ∧ ∀ p, g.producer f = some p → s'.st p ≠ .unknown
  | _ => True
def AB (g : Graph) (id : Nat) : WR St → Prop
  | .ok _ s' => AI g s' ∧ s'.st id ≠ .unknown
  | _ => True
def AL {α : Type} (g : Graph) (fs : List Nat) : WR α → Prop
  | .ok _ s' => AI g s' ∧ ∀ f ∈ fs, ∀ p, g.producer f = some p → s'.st p ≠ .unknown
  | _ => True

/-- A call of the want phase that succeeds keeps the invariant: `want_build` marks its build once
    the producers of the ordering inputs are marked. -/
theorem want_acyc (g : Graph) :
    WantOk g (fun s _ _ _ s' => AI g s → AI g s') (fun s _ _ _ s' => AI g s → AI g s')
      (fun s _ _ _ _ s' => AI g s → AI g s') where
  leaf := fun _ ai => ai
  file := fun _ _ hb => hb
  known := fun _ ai => ai
  build := fun _ e1 hi hs _ hv ai =>
    hv (ai_mark (hi ai) (set_st hs) (ready_or_want_ne _) ((want_marks g).of_ins e1))
  nil := fun ai => ai
  cons := fun _ hf _ hi ai => hi (hf ai)

theorem acyc_all (g : Graph) : ∀ fuel : Nat,
    (∀ s stack f, AI g s → AF g f (wantFile g fuel s stack f)) ∧
    (∀ s stack id, AI g s → AB g id (wantBuild g fuel s stack id)) ∧
    (∀ s stack fs rd, AI g s → AL g fs (wantIns g fuel s stack fs rd)) ∧
    (∀ s fs, AI g s → AL g fs (wantVals g fuel s fs)) := by
  intro fuel
  refine ⟨fun s stack f ai => ?_, fun s stack id ai => ?_, fun s stack fs rd ai => ?_, fun s fs ai => ?_⟩
  · cases h : wantFile g fuel s stack f with
    | ok r s' => exact ⟨(want_acyc g).of_file h ai, (want_marks g).of_file h⟩
    | _ => trivial
  · cases h : wantBuild g fuel s stack id with
    | ok r s' => exact ⟨(want_acyc g).of_build h ai, (want_marks g).of_build h⟩
    | _ => trivial
  · cases h : wantIns g fuel s stack fs rd with
    | ok r s' => exact ⟨(want_acyc g).of_ins h ai, (want_marks g).of_ins h⟩
    | _ => trivial
  · cases h : wantVals g fuel s fs with
    | ok r s' =>
      obtain ⟨_, hi⟩ := (want_acyc g).of_vals h
      obtain ⟨_, hm⟩ := (want_marks g).of_vals h
      exact ⟨hi ai, hm⟩
    | _ => trivial

/-- **`Work::want_file` succeeds only on acyclic ground**: from a state satisfying the invariant
    (nothing marked, or the result of earlier successful `want_file`s), success leaves the
    invariant in place - no marked build is its own ordering ancestor. -/
theorem want_acyclic (g : Graph) (s s' : S) (f : Nat) (hc : AI g s) (h : want g s f = .ok () s') : AI g s' :=
  have ⟨_, k⟩ := (want_acyc g).of_want h; k hc

theorem ai_of_unmarked (g : Graph) (s : S) (h : ∀ b, s.st b = .unknown) : AI g s :=
  ⟨fun b hb => absurd (h b) hb, fun b hb => absurd (h b) hb⟩

end N2V.Sched
