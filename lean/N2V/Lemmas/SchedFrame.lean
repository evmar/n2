/-
  Suffixes of a trace respect the `-k` budget predicate (`bT`, Lemmas/SchedDefs), and the frame
  relation: what a step leaves untouched (the task counters, the budget, the start/finish
  skeleton `sf` of the trace).
-/
import N2V.Lemmas.SchedBasic
namespace N2V.Sched

theorem bT_start_suffix {k : Option Nat} {tr : List Ev} (h : bT k tr = true) {b : Nat} {tr' : List Ev}
    (hs : (.start b :: tr') <:+ tr) : budgetOk k tr' = true := by
  obtain ⟨t, rfl⟩ := hs
  induction t with
  | nil => simp only [List.nil_append, bT, Bool.and_eq_true] at h; exact h.1
  | cons e t ih =>
    apply ih
    cases e <;> simp only [List.cons_append, bT, Bool.and_eq_true] at h <;> first | exact h.2 | exact h

theorem sf_suffix {tr tr' : List Ev} (hs : tr' <:+ tr) : sf tr' <:+ sf tr := by
  obtain ⟨t, rfl⟩ := hs
  induction t with
  | nil => exact List.suffix_refl _
  | cons e t ih =>
    cases e <;> simp only [List.cons_append, sf] <;> first | exact ih | exact List.IsSuffix.trans ih (List.suffix_cons _ _)

theorem sf_start (b : Nat) (tr : List Ev) : sf (.start b :: tr) = .start b :: sf tr := rfl

structure Frame (s s' : S) : Prop where
  tasksRun : s'.tasksRun = s.tasksRun
  tasksFailed : s'.tasksFailed = s.tasksFailed
  failuresLeft : s'.failuresLeft = s.failuresLeft
  sf : sf s'.trace = sf s.trace

theorem Frame.refl (s : S) : Frame s s := ⟨rfl, rfl, rfl, rfl⟩
theorem Frame.trans {a b c : S} (h1 : Frame a b) (h2 : Frame b c) : Frame a c :=
  ⟨h2.tasksRun.trans h1.tasksRun, h2.tasksFailed.trans h1.tasksFailed,
   h2.failuresLeft.trans h1.failuresLeft, h2.sf.trans h1.sf⟩

theorem set_frm {g : Graph} {s s' : S} {id : Nat} {new : St} (h : set g s id new = .ok s') : Frame s s' :=
  ⟨set_tasksRun h, set_tasksFailed h, set_failuresLeft h, by rw [set_trace h]; rfl⟩

end N2V.Sched
