/-
  The graph every invocation schedules on meets the hypotheses of the scheduler theorems
  (`GraphOK`, `DepsOK`): they follow from the loader's cross-reference invariant, which also
  survives attaching the log (interning the names of recorded dependencies).
-/
import N2V.Lemmas.LoadInv
import N2V.Lemmas.LoadTotal
import N2V.Lemmas.SchedWantInv
import N2V.Lemmas.SchedWantTerm
import N2V.Lemmas.WorkFrame
import N2V.Model.Work
namespace N2V.Work
open N2V N2V.Load

theorem schedGraph_producer {g : GraphM} {f p : Nat} (h : (schedGraph g).producer f = some p) :
    ∃ fm : FileM, g.files[f]? = some fm ∧ fm.input = some p := by
  simp only [schedGraph, List.getElem?_toArray] at h
  exact Option.bind_eq_some_iff.mp h

theorem schedGraph_inputs {g : GraphM} {b f : Nat}
    (h : f ∈ ((schedGraph g).build b).ordering ++ ((schedGraph g).build b).validation) :
    ∃ bm : BuildM, g.builds[b]? = some bm ∧ f ∈ bm.ins := by
  simp only [schedGraph, List.getElem?_toArray] at h
  cases hb : g.builds[b]? with
  | none => rw [hb] at h; cases h
  | some bm =>
    rw [hb] at h
    refine ⟨bm, rfl, ?_⟩
    rcases List.mem_append.mp h with h | h
    · exact List.mem_of_mem_take h
    · exact List.mem_of_mem_drop h

theorem schedGraph_ok (g : GraphM) (inv : GInv g) : Sched.GraphOK (schedGraph g) ∧ Sched.DepsOK (schedGraph g) := by
  refine ⟨?_, ⟨?_, ?_⟩⟩
  · intro f p h
    obtain ⟨fm, hf, hin⟩ := schedGraph_producer h
    obtain ⟨bm, hb, _⟩ := inv.prod f fm p hf hin
    exact (List.getElem?_eq_some_iff.mp hb).1
  · intro f p h
    obtain ⟨fm, hf, hin⟩ := schedGraph_producer h
    obtain ⟨bm, hb, ho⟩ := inv.prod f fm p hf hin
    simp only [schedGraph, List.getElem?_toArray, hb]
    exact ho
  · intro b f h
    obtain ⟨bm, hb, hm⟩ := schedGraph_inputs (List.mem_append_left _ h)
    obtain ⟨fm, hf, hd⟩ := inv.ins b bm hb f hm
    simp only [schedGraph, List.getElem?_toArray, hf]
    exact hd

/-- Input lists of a loaded graph name files of the graph (the hypothesis of the want phase's
    termination theorem). -/
theorem schedGraph_filesOK (g : GraphM) (inv : GInv g) : Sched.FilesOK (schedGraph g) := by
  intro b _ f hf
  obtain ⟨bm, hb, hm⟩ := schedGraph_inputs hf
  obtain ⟨fm, hfm, _⟩ := inv.ins b bm hb f hm
  exact (List.getElem?_eq_some_iff.mp hfm).1

theorem intern_inv (e : Env) (name : Bytes) (inv : GInv e.g) : GInv (intern e name).1.g :=
  (idFromCanonical_spec e.g name inv).1

theorem applyLog_inv (rs : List Rec) : ∀ (e : Env), GInv e.g → GInv (applyLog e rs).g := by
  induction rs with
  | nil => intro e inv; exact inv
  | cons r rs ih =>
    intro e inv
    unfold applyLog
    simp only []
    split
    · apply ih
      simp only []
      -- interning the recorded names one by one
      have key : ∀ (deps : List Bytes) (acc : Env × List Nat), GInv acc.1.g →
          GInv (deps.foldl (fun (acc : Env × List Nat) n => ((intern acc.1 n).1, acc.2 ++ [(intern acc.1 n).2])) acc).1.g := by
        intro deps
        induction deps with
        | nil => intro acc h; exact h
        | cons n ns ihn => intro acc h; exact ihn _ (intern_inv acc.1 n h)
      exact key r.deps (e, []) inv
    · exact ih e inv

/-- **Every invocation schedules on a graph that meets the scheduler theorems' hypotheses.** -/
theorem loadEnv_graph_ok (w : World) (m : Bytes) (l : Loader) (e0 : Env) (h : loadEnv w m = .ok (l, e0)) :
    GInv e0.g ∧ Sched.GraphOK (schedGraph e0.g) ∧ Sched.DepsOK (schedGraph e0.g) := by
  unfold loadEnv at h
  simp only [] at h
  split at h
  · cases h
  · rename_i l0 hl
    cases h
    have inv : GInv l.graph := load_inv false _ m l hl
    have := applyLog_inv w.log { g := l.graph, disc := [], hashes := [], cache := [], fs := w.fs, clock := w.clock, log := w.log } inv
    exact ⟨this, schedGraph_ok _ this⟩

theorem ginv_idsOK (g : GraphM) (inv : GInv g) : IdsOK g := by
  intro b bm hb f hf
  unfold buildOf at hb
  rcases List.mem_append.mp hf with h | h
  · obtain ⟨fm, hfm, _⟩ := inv.ins b bm hb f h
    exact (List.getElem?_eq_some_iff.mp hfm).1
  · obtain ⟨fm, hfm, _⟩ := inv.outs b bm hb f h
    exact (List.getElem?_eq_some_iff.mp hfm).1

end N2V.Work
