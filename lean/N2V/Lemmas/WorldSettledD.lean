/-
  The round trip: a successful build followed by the same build does nothing, provided the
  dependencies the commands reported are source files.  The invariant `JD` at the end of the first
  invocation says what the next start-up will attach to every Done step; here that is compared,
  by names, with the environment the next `load::read` really returns.
-/
import N2V.Lemmas.WorkSettledD
import N2V.Lemmas.WorldClean
import N2V.Lemmas.SchedComplete
import N2V.Lemmas.SchedReg
import N2V.Lemmas.SchedDone2
namespace N2V.Work
open N2V N2V.Load N2V.Sched N2V.Run

theorem sg_build_ext {g g' : GraphM} (h : Ext g g') (b : Nat) : (schedGraph g').build b = (schedGraph g).build b := by
  unfold schedGraph
  simp only [h.builds]

theorem sg_fileName (g : GraphM) (f : Nat) : (schedGraph g).fileName f = fileName g f := by
  unfold schedGraph fileName
  simp only [List.getElem?_toArray]
  cases g.files[f]? <;> rfl

theorem sg_nFiles (g : GraphM) : (schedGraph g).nFiles = g.files.length := rfl

theorem needs_ext {L g0 g1 : GraphM} (h0 : Ext L g0) (h1 : Ext L g1) {f b : Nat}
    (h : Needs (schedGraph g1) f b) : Needs (schedGraph g0) f b := by
  induction h with
  | direct hp =>
    rename_i f b
    rw [sg_producer] at hp
    have hf : f < L.files.length := by
      by_cases hf : f < L.files.length
      · exact hf
      · rw [h1.fileInput_new f (by omega)] at hp; cases hp
    apply Needs.direct
    rw [sg_producer, h0.fileInput_old f hf, ← h1.fileInput_old f hf]
    exact hp
  | step _ hmem _ ih1 ih2 =>
    refine Needs.step ih1 ?_ ih2
    rw [sg_build_ext h0, ← sg_build_ext h1]
    exact hmem

theorem needs_has_producer {g : Graph} {f b : Nat} (h : Needs g f b) : ∃ p, g.producer f = some p := by
  induction h with
  | direct hp => exact ⟨_, hp⟩
  | step _ _ _ ih1 _ => exact ih1

theorem lookupM_ext {L g0 g1 : GraphM} (h0 : Ext L g0) (h1 : Ext L g1) (a : Args)
    (hmf : a.manifestFiles = some L.files.length) (n : Bytes) (f : Nat)
    (h : lookupM (schedGraph g1) a n = .ok (some f)) : lookupM (schedGraph g0) a n = .ok (some f) := by
  unfold lookupM at h ⊢
  rw [hmf] at h ⊢
  cases hl : lookup (schedGraph g1) n with
  | ok r =>
    rw [hl] at h
    cases r with
    | none => simp at h
    | some t =>
      simp only [] at h
      by_cases ht : t < L.files.length
      · rw [if_pos ht] at h
        have htf : t = f := by injection h with h'; injection h'
        subst htf
        -- the same first index in the other graph
        have hl0 : lookup (schedGraph g0) n = .ok (some t) := by
          unfold lookup at hl ⊢
          cases hc : Canon.canon n with
          | ok c =>
            rw [hc] at hl
            simp only [] at hl ⊢
            have hfind : (List.range (schedGraph g1).nFiles).find? (fun f => (schedGraph g1).fileName f == c) = some t := by
              injection hl
            obtain ⟨hp, i, hi, hget, hbefore⟩ := List.find?_eq_some_iff_getElem.mp hfind
            rw [List.getElem_range] at hget
            subst hget
            congr 1
            apply List.find?_eq_some_iff_getElem.mpr
            have hnm : ∀ j, j < L.files.length → (schedGraph g0).fileName j = (schedGraph g1).fileName j := by
              intro j hj
              rw [sg_fileName, sg_fileName, h0.fileName_old j hj, h1.fileName_old j hj]
            refine ⟨by rw [hnm i ht]; exact hp, i, ?_, ?_, ?_⟩
            · rw [List.length_range, sg_nFiles]; exact Nat.lt_of_lt_of_le ht h0.length_le
            · rw [List.getElem_range]
            · intro j hj
              have := hbefore j hj
              rw [List.getElem_range] at this ⊢
              rw [hnm j (by omega)]
              exact this
          | panic m => rw [hc] at hl; simp at hl
          | _ => rw [hc] at hl; simp at hl
        rw [hl0]
        simp only [ht, if_true]
      · rw [if_neg ht] at h; simp at h
  | _ => rw [hl] at h; simp at h

theorem wanted_ext {L g0 g1 : GraphM} (h0 : Ext L g0) (h1 : Ext L g1) (a : Args)
    (hmf : a.manifestFiles = some L.files.length) (b : Nat)
    (h : Wanted (schedGraph g1) a b) : Wanted (schedGraph g0) a b := by
  obtain ⟨f, hr, hn⟩ := h
  refine ⟨f, ?_, needs_ext h0 h1 hn⟩
  rcases hr with h | ⟨n, hn', hl⟩ | h | ⟨ht, hd, hlt⟩
  · exact Or.inl h
  · exact Or.inr (Or.inl ⟨n, hn', lookupM_ext h0 h1 a hmf n f hl⟩)
  · exact Or.inr (Or.inr (Or.inl h))
  · refine Or.inr (Or.inr (Or.inr ⟨ht, hd, ?_⟩))
    obtain ⟨p, hp⟩ := needs_has_producer hn
    rw [sg_producer] at hp
    rw [sg_nFiles]
    by_cases hf : f < L.files.length
    · exact Nat.lt_of_lt_of_le hf h0.length_le
    · rw [h1.fileInput_new f (by omega)] at hp; cases hp

def mtN (fs : FsM) (n : Bytes) : MTime := (fs.get n).map (·.mtime)

/-- The manifest as a function of names and the tree: two start-ups need not give a source file
    interned from the log the same id, but they give it the same name. -/
def manifestN (fs : FsM) (ins disc outs : List Bytes) (cmd : Bytes) (rsp : Option (Bytes × Bytes)) : Manifest :=
  { ins := ins.map (fun n => (n, (mtN fs n).getD 0)), disc := disc.map (fun n => (n, (mtN fs n).getD 0)),
    cmd := cmd, rsp := rsp, outs := outs.map (fun n => (n, (mtN fs n).getD 0)) }

theorem manifestFs_eq_N (e : Env) (bm : BuildM) (b : Nat) :
    manifestFs e bm b = manifestN e.fs (bm.dirtying.map (fileName e.g)) ((discOf e b).map (fileName e.g))
      (bm.outs.map (fileName e.g)) (bm.cmdline.getD []) bm.rspfile := by
  unfold manifestFs manifestN mtimeOf mtN
  simp only [List.map_map]
  rfl

theorem mtimeOf_eq_N (e : Env) (f : Nat) : mtimeOf e f = mtN e.fs (fileName e.g f) := rfl

theorem upToDate_of_names (e e' : Env) (b : Nat) (bm : BuildM) (hfs : e'.fs = e.fs)
    (hn : ∀ f ∈ bm.dirtying ++ bm.outs, fileName e'.g f = fileName e.g f)
    (hd : (discOf e' b).map (fileName e'.g) = (discOf e b).map (fileName e.g))
    (hall : AllPresentD e bm b) (hrec : assocGet e'.hashes b = some (manifestFs e bm b)) : UpToDate e' b bm := by
  have hin : bm.dirtying.map (fileName e'.g) = bm.dirtying.map (fileName e.g) :=
    List.map_congr_left (fun f hf => hn f (by simp [hf]))
  have hout : bm.outs.map (fileName e'.g) = bm.outs.map (fileName e.g) :=
    List.map_congr_left (fun f hf => hn f (by simp [hf]))
  refine ⟨fun f hf => ?_, by rw [hrec, manifestFs_eq_N, manifestFs_eq_N, hfs, hin, hd, hout]⟩
  -- some file of the step in `e` has the same name
  have : fileName e'.g f ∈ (bm.dirtying ++ discOf e b ++ bm.outs).map (fileName e.g) := by
    rw [List.map_append, List.map_append, ← hin, ← hd, ← hout, ← List.map_append, ← List.map_append]
    exact List.mem_map_of_mem hf
  obtain ⟨f1, hf1, hn1⟩ := List.mem_map.mp this
  rw [mtimeOf_eq_N, hfs, ← hn1, ← mtimeOf_eq_N]
  exact hall f1 hf1

theorem loadEnv_loaded0 (w : World) (m : Bytes) (l : Loader) (e0 : Env) (h : loadEnv w m = .ok (l, e0)) :
    Ext l.graph e0.g ∧ Loaded0 e0 := by
  obtain ⟨_, hx, _, _, hlog, _, hb⟩ := loadEnv_spec h
  have hlc : ∀ b, lastRec e0.g b e0.log none = lastRec l.graph b w.log none :=
    fun b => hlog ▸ lastRec_congr l.graph e0.g hx.producer b e0.log none
  exact ⟨hx, fun b r hr => (hb b).1 r (hlc b ▸ hr), fun b hr => ((hb b).2 (hlc b ▸ hr)).symm⟩

/-- From an environment `load::read` returned, a `run::build` starts with the invariant, and its
    environment operations keep it (under the premise that finished steps remember sources only). -/
theorem loadEnv_jc {w : World} {m : Bytes} {l : Loader} {e0 : Env} (hl : loadEnv w m = .ok (l, e0)) (plain : PlainD e0.g)
    (a : Args) (adopt : Bool) (perms : List (List Nat)) (fin : List (Nat × Term)) :
    GraphOK (schedGraph e0.g) ∧ Loaded0 e0 ∧
    DoneSpec (schedGraph e0.g) (choices adopt perms fin) (fun s e => GoodD s e → JC e0 s e) ∧
    (GoodD (fresh a) e0 → JC e0 (fresh a) e0) := by
  obtain ⟨inv0, gok, _⟩ := loadEnv_graph_ok w m l e0 hl
  obtain ⟨_, l0⟩ := loadEnv_loaded0 w m l e0 hl
  exact ⟨gok, l0, jc_spec e0 inv0 l0.ids plain adopt perms fin,
    fun _ => jc_initial e0 a inv0 l0.ids (loadEnv_frame w m l e0 hl).1⟩

/-- **What is Done is settled, whenever an invocation ends ordinarily**: at the end of a
    `run::build` from an environment `load::read` returned that reports success or an ordinary
    failure (a command failed, the `-k` budget ran out, an interruption; no reload), the invariant
    `JD` holds of what it returned - provided the finished steps remember source files only. -/
theorem build_jd (w : World) (m : Bytes) (l : Loader) (e0 : Env) (hl : loadEnv w m = .ok (l, e0)) (plain : PlainD e0.g)
    (a : Args) (adopt : Bool) (perms : List (List Nat)) (fin : List (Nat × Term))
    (h : (∃ n, (build (schedGraph e0.g) a (choices adopt perms fin) e0).2.2 = .done n) ∨
         (build (schedGraph e0.g) a (choices adopt perms fin) e0).2.2 = .failed)
    (hsrc : GoodD (build (schedGraph e0.g) a (choices adopt perms fin) e0).1
              (build (schedGraph e0.g) a (choices adopt perms fin) e0).2.1) :
    JD e0 (build (schedGraph e0.g) a (choices adopt perms fin) e0).1
      (build (schedGraph e0.g) a (choices adopt perms fin) e0).2.1 := by
  obtain ⟨gok, l0, spec, j0⟩ := loadEnv_jc hl plain a adopt perms fin
  exact (l0.jd_iff _ _).mpr (build_done_or_failed gok a _ _ spec e0 j0 h hsrc)

/-- The same for the part of an invocation that follows a manifest reload. -/
theorem buildReloaded_jd (w : World) (m : Bytes) (l : Loader) (e0 : Env) (hl : loadEnv w m = .ok (l, e0))
    (plain : PlainD e0.g) (a : Args) (adopt : Bool) (perms : List (List Nat)) (fin : List (Nat × Term)) (n0 : Nat)
    (h : (∃ n, (buildReloaded (schedGraph e0.g) a (choices adopt perms fin) e0 n0).2.2 = .done n) ∨
         (buildReloaded (schedGraph e0.g) a (choices adopt perms fin) e0 n0).2.2 = .failed)
    (hsrc : GoodD (buildReloaded (schedGraph e0.g) a (choices adopt perms fin) e0 n0).1
              (buildReloaded (schedGraph e0.g) a (choices adopt perms fin) e0 n0).2.1) :
    JD e0 (buildReloaded (schedGraph e0.g) a (choices adopt perms fin) e0 n0).1
      (buildReloaded (schedGraph e0.g) a (choices adopt perms fin) e0 n0).2.1 := by
  obtain ⟨gok, l0, spec, j0⟩ := loadEnv_jc hl plain a adopt perms fin
  exact (l0.jd_iff _ _).mpr (buildReloaded_done_or_failed gok a _ _ spec e0 j0 n0 h hsrc)

/-- **A completed step is up to date at the next start-up** (whatever else happened in the
    invocation - it may have failed elsewhere): if the invariant `JD` holds at the end of an
    invocation, the remembered dependencies of finished steps are source files, and the manifest
    loads to the same graph from the world that invocation left, then every `Done` non-phony step
    whose named files exist is `UpToDate` in the freshly loaded environment, and its remembered
    dependencies are sources there too. -/
theorem next_startup_upToDate (w : World) (m : Bytes) (l : Loader) (e0 : Env) (hl : loadEnv w m = .ok (l, e0))
    (s1 : S) (e1 : Env) (j : JD e0 s1 e1) (hsrc : GoodD s1 e1)
    (w' : World) (hw' : w' = { fs := e1.fs, clock := e1.clock, log := e1.log })
    (e0' : Env) (hl' : loadEnv w' m = .ok (l, e0'))
    (b : Nat) (bm : BuildM) (hb : buildOf e0.g b = some bm) (hdoneb : s1.st b = .done)
    (hnp : bm.cmdline.isNone = false) (hall : AllPresentD e1 bm b) :
    buildOf e0'.g b = some bm ∧ UpToDate e0' b bm ∧ ∀ f ∈ discOf e0' b, fileInput e0'.g f = none := by
  obtain ⟨hx0, l0⟩ := loadEnv_loaded0 w m l e0 hl
  obtain ⟨_, hfs1, _, hlog1⟩ := loadEnv_frame w' m l e0' hl'
  obtain ⟨hx1, l1⟩ := loadEnv_loaded0 w' m l e0' hl'
  have hfs : e0'.fs = e1.fs := by rw [hfs1, hw']
  have hxe1 : Ext l.graph e1.g := hx0.trans j.ext
  have idsL := ginv_named_lt l.graph (loadEnv_spec hl).1 b bm (by rw [← hx0.buildOf]; exact hb)
  have hname : ∀ f, f < l.graph.files.length → fileName e0'.g f = fileName e1.g f :=
    fun f hf => by rw [hx1.fileName_old f hf, hxe1.fileName_old f hf]
  -- the record the invariant speaks of is the one the next start-up attaches
  obtain ⟨r, q1, hh, hdeps⟩ := j.settled b bm hdoneb hb hnp hall
  obtain ⟨m1, _, m3⟩ := l1.rem b r (by
    rw [hlog1, hw', lastRec_congr l.graph e0'.g hx1.producer, ← lastRec_congr l.graph e0.g hx0.producer]
    exact q1)
  have hdn : (discOf e0' b).map (fileName e0'.g) = (discOf e1 b).map (fileName e1.g) := m1.trans hdeps
  refine ⟨by rw [hx1.buildOf, ← hx0.buildOf]; exact hb,
    upToDate_of_names e1 e0' b bm hfs (fun f hf => hname f (idsL f hf)) hdn hall (by rw [m3, hh]), fun f hf => ?_⟩
  -- a generated file among the remembered dependencies would be one in `e1` too
  cases hp : fileInput e0'.g f with
  | none => rfl
  | some p =>
    exfalso
    obtain ⟨hfL, hpL⟩ := hx1.input_old f p hp
    have hn : fileName e0'.g f ∈ (discOf e0' b).map (fileName e0'.g) := List.mem_map_of_mem hf
    rw [hdn, hname f hfL] at hn
    obtain ⟨f1, hf1, hn1⟩ := List.mem_map.mp hn
    have := j.uniq.fileName_inj (j.discIds b f1 hf1) (Nat.lt_of_lt_of_le hfL hxe1.length_le) hn1
    subst this
    have hsrcf := hsrc b hdoneb f1 hf1
    rw [hxe1.fileInput_old f1 hfL, hpL] at hsrcf
    cases hsrcf

/-- **A successful build followed by the same build: the second does nothing** - also for steps
    with depfiles / `deps = msvc`.  Hypotheses: no command rewrites its inputs, every step has an
    output; the first invocation succeeds without reloading the manifest; the
    dependencies its finished steps remember at the end are SOURCE files (not produced by any
    step); the files the wanted steps name exist afterwards; the manifest still loads to the same
    graph.  Then the next invocation with the same arguments leaves the world as it is, starts no
    command and reports 0 tasks - for every scheduling behaviour in either invocation. -/
theorem second_build_does_nothing_deps (w : World) (a : InvArgs) (perms : List (List Nat)) (fin : List (Nat × Term))
    (l : Loader) (e0 : Env) (hl : loadEnv w a.manifestName = .ok (l, e0))
    (plain : PlainD e0.g) (hpar : 0 < a.par) (n : Nat)
    (hdone : (build (schedGraph e0.g) (argsOf l a) (choices a.adopt perms fin) e0).2.2 = .done n)
    (hsrc : GoodD (build (schedGraph e0.g) (argsOf l a) (choices a.adopt perms fin) e0).1
              (build (schedGraph e0.g) (argsOf l a) (choices a.adopt perms fin) e0).2.1)
    (hpresent : ∀ b bm, Wanted (schedGraph e0.g) (argsOf l a) b → buildOf e0.g b = some bm → bm.cmdline.isNone = false →
      AllPresentD (build (schedGraph e0.g) (argsOf l a) (choices a.adopt perms fin) e0).2.1 bm b)
    (w' : World)
    (hw' : w' = { fs := (build (schedGraph e0.g) (argsOf l a) (choices a.adopt perms fin) e0).2.1.fs,
                  clock := (build (schedGraph e0.g) (argsOf l a) (choices a.adopt perms fin) e0).2.1.clock,
                  log := (build (schedGraph e0.g) (argsOf l a) (choices a.adopt perms fin) e0).2.1.log })
    (e0' : Env) (hl' : loadEnv w' a.manifestName = .ok (l, e0'))
    (o1 o2 : List (List Nat) × List (Nat × Term)) :
    (invoke w' a o1 o2).1 = w' ∧ commandEvents (invoke w' a o1 o2).2.2 = [] ∧
    (∀ k, (invoke w' a o1 o2).2.1 = .done k → k = 0) := by
  obtain ⟨_, gok, dok⟩ := loadEnv_graph_ok w a.manifestName l e0 hl
  have hx0 := (loadEnv_spec hl).2.1
  have hx1 := (loadEnv_spec hl').2.1
  -- the invariant at the end of the first build
  have j := build_jd w a.manifestName l e0 hl plain (argsOf l a) a.adopt perms fin (Or.inl ⟨n, hdone⟩) hsrc
  -- every step the second invocation may consider was Done at the end of the first
  have key : ∀ b bm, Wanted (schedGraph e0'.g) (argsOf l a) b → buildOf e0'.g b = some bm → bm.cmdline.isNone = false →
      UpToDate e0' b bm ∧ ∀ f ∈ discOf e0' b, fileInput e0'.g f = none := by
    intro b bm hW' hb' hnp
    have hW := wanted_ext hx0 hx1 (argsOf l a) rfl b hW'
    have hb : buildOf e0.g b = some bm := by rw [hx0.buildOf, ← hx1.buildOf]; exact hb'
    have hdoneb := (build_done_settled_free gok dok (argsOf l a) hpar _ e0 n hdone b).resolve_left
      (build_complete gok (argsOf l a) _ e0 n hdone b hW)
    exact (next_startup_upToDate w a.manifestName l e0 hl _ _ j hsrc w' hw' e0' hl' b bm hb hdoneb hnp
      (hpresent b bm hW hb hnp)).2
  exact invoke_upToDate w' a o1 o2 l e0' hl' ⟨fun b bm hW hb hnp => (key b bm hW hb hnp).1,
    fun b bm hW hb hnp f hf p hp => by rw [(key b bm hW hb hnp).2 f hf] at hp; cases hp⟩

end N2V.Work
