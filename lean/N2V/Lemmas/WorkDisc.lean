/-
  Discovered dependencies across invocations (C09): how records are attributed to steps by the
  names of their outputs, what a start-up attaches to a step from ANY log (records with
  dependency lists included), and what a "clean" answer of `check_build_dirty` says about the
  remembered dependencies.
-/
import N2V.Lemmas.WorkSkip
import N2V.Lemmas.LoadSched
import N2V.Props.C08
namespace N2V.Work
open N2V N2V.Load

def UniqueNames (g : GraphM) : Prop :=
  ∀ (i j : Nat) (fi fj : FileM), g.files[i]? = some fi → g.files[j]? = some fj → fi.name = fj.name → i = j

theorem GInv.uniqueNames {g : GraphM} (inv : GInv g) : UniqueNames g := inv.names

theorem fileName_of_lt (g : GraphM) (f : Nat) (hf : f < g.files.length) : fileName g f = g.files[f].name := by
  unfold fileName; rw [List.getElem?_eq_getElem hf]; rfl

theorem UniqueNames.fileName_inj {g : GraphM} (hu : UniqueNames g) {f f' : Nat} (hf : f < g.files.length)
    (hf' : f' < g.files.length) (h : fileName g f = fileName g f') : f = f' :=
  hu f f' _ _ (List.getElem?_eq_getElem hf) (List.getElem?_eq_getElem hf')
    (by rw [← fileName_of_lt g f hf, ← fileName_of_lt g f' hf', h])

theorem producerByName_unique (g : GraphM) (hu : UniqueNames g) (f : Nat) (hf : f < g.files.length) :
    producerByName g (fileName g f) = fileInput g f := by
  have hfm : g.files[f]? = some g.files[f] := List.getElem?_eq_getElem hf
  unfold producerByName fileInput
  rw [fileName_of_lt g f hf, hfm]
  -- the first file with that name is `f` itself
  cases hfind : g.files.find? (fun x => x.name == g.files[f].name) with
  | none => exact absurd (beq_self_eq_true _) (List.find?_eq_none.mp hfind _ (List.getElem_mem hf))
  | some fm' =>
    obtain ⟨i, hi, hget⟩ := List.getElem_of_mem (List.mem_of_find?_eq_some hfind)
    have hi' : g.files[i]? = some fm' := by rw [List.getElem?_eq_getElem hi, hget]
    have hp := List.find?_some hfind
    have : i = f := hu i f fm' g.files[f] hi' hfm (eq_of_beq hp)
    subst this
    rw [hfm] at hi'
    cases hi'
    rfl

theorem fileInput_lt (g : GraphM) (f p : Nat) (h : fileInput g f = some p) : f < g.files.length := by
  unfold fileInput at h
  cases hf : g.files[f]? with
  | none => rw [hf] at h; cases h
  | some _ => exact (List.getElem?_eq_some_iff.mp hf).1

theorem fileInput_out (g : GraphM) (inv : GInv g) (b : Nat) (bm : BuildM) (hb : buildOf g b = some bm) :
    ∀ o ∈ bm.outs, fileInput g o = some b := by
  intro o ho
  obtain ⟨fm, hfm, hin⟩ := inv.outs b bm hb o ho
  unfold fileInput; rw [hfm]; exact hin

theorem outs_produced (g : GraphM) (inv : GInv g) (b : Nat) (bm : BuildM) (hb : buildOf g b = some bm) :
    ∀ o ∈ bm.outs, producerByName g (fileName g o) = some b := by
  intro o ho
  rw [producerByName_unique g inv.names o (fileInput_lt g o b (fileInput_out g inv b bm hb o ho))]
  exact fileInput_out g inv b bm hb o ho

theorem attributed_own (g : GraphM) (inv : GInv g) (b : Nat) (bm : BuildM) (hb : buildOf g b = some bm)
    (hne : bm.outs ≠ []) : Db.attributeRec (producerByName g) (bm.outs.map (fileName g)) = some b := by
  apply C08.attribution_complete
  · simpa using hne
  · intro n hn
    obtain ⟨o, ho, rfl⟩ := List.mem_map.mp hn
    exact outs_produced g inv b bm hb o ho

theorem attributed_unique (g : GraphM) (inv : GInv g) (b b' : Nat) (bm' : BuildM) (hb' : buildOf g b' = some bm')
    (h : Db.attributeRec (producerByName g) (bm'.outs.map (fileName g)) = some b) : b = b' := by
  obtain ⟨hne, hall⟩ := C08.attribution _ _ _ h
  cases ho : bm'.outs with
  | nil => rw [ho] at hne; simp at hne
  | cons o os =>
    have h1 := hall (fileName g o) (by rw [ho]; simp)
    have h2 := outs_produced g inv b' bm' hb' o (by rw [ho]; simp)
    rw [h2] at h1
    exact (Option.some.inj h1).symm

theorem ginv_prod_build (g : GraphM) (inv : GInv g) (f p : Nat) (h : fileInput g f = some p) :
    ∃ bm, buildOf g p = some bm ∧ f ∈ bm.outs := by
  unfold fileInput at h
  cases hf : g.files[f]? with
  | none => rw [hf] at h; cases h
  | some fm =>
    rw [hf] at h
    exact inv.prod f fm p hf h

theorem ginv_named_lt (g : GraphM) (inv : GInv g) (b : Nat) (bm : BuildM) (hb : buildOf g b = some bm) :
    ∀ f ∈ bm.dirtying ++ bm.outs, f < g.files.length := by
  intro f hf
  apply ginv_idsOK g inv b bm hb f
  rcases List.mem_append.mp hf with h | h
  · exact List.mem_append.mpr (Or.inl (List.mem_of_mem_take h))
  · exact List.mem_append.mpr (Or.inr h)

/-- `g'` is `g` with more files, none of them produced by a step. -/
structure Ext (g g' : GraphM) : Prop where
  builds : g'.builds = g.builds
  files : ∃ extra, g'.files = g.files ++ extra ∧ ∀ f ∈ extra, f.input = none

theorem Ext.refl (g : GraphM) : Ext g g := ⟨rfl, [], by simp, by simp⟩

theorem Ext.trans {a b c : GraphM} (h1 : Ext a b) (h2 : Ext b c) : Ext a c := by
  obtain ⟨x1, hx1, hn1⟩ := h1.files
  obtain ⟨x2, hx2, hn2⟩ := h2.files
  refine ⟨h2.builds.trans h1.builds, x1 ++ x2, by rw [hx2, hx1, List.append_assoc], ?_⟩
  intro f hf
  rcases List.mem_append.mp hf with h | h
  · exact hn1 f h
  · exact hn2 f h

theorem Ext.length_le {g g' : GraphM} (h : Ext g g') : g.files.length ≤ g'.files.length := by
  obtain ⟨x, hx, _⟩ := h.files
  rw [hx, List.length_append]; omega

theorem Ext.file_old {g g' : GraphM} (h : Ext g g') (f : Nat) (hf : f < g.files.length) :
    g'.files[f]? = g.files[f]? := by
  obtain ⟨x, hx, _⟩ := h.files
  rw [hx, List.getElem?_append_left hf]

theorem Ext.fileName_old {g g' : GraphM} (h : Ext g g') (f : Nat) (hf : f < g.files.length) :
    fileName g' f = fileName g f := by
  unfold fileName; rw [h.file_old f hf]

theorem Ext.fileInput_old {g g' : GraphM} (h : Ext g g') (f : Nat) (hf : f < g.files.length) :
    fileInput g' f = fileInput g f := by
  unfold fileInput; rw [h.file_old f hf]

theorem Ext.fileInput_new {g g' : GraphM} (h : Ext g g') (f : Nat) (hf : g.files.length ≤ f) :
    fileInput g' f = none := by
  obtain ⟨x, hx, hn⟩ := h.files
  unfold fileInput
  rw [hx, List.getElem?_append_right hf]
  cases hk : x[f - g.files.length]? with
  | none => rfl
  | some fm => exact hn fm (List.mem_of_getElem? hk)

theorem Ext.input_old {g g' : GraphM} (h : Ext g g') (f p : Nat) (hp : fileInput g' f = some p) :
    f < g.files.length ∧ fileInput g f = some p := by
  by_cases hf : f < g.files.length
  · exact ⟨hf, by rw [← h.fileInput_old f hf]; exact hp⟩
  · rw [h.fileInput_new f (by omega)] at hp; cases hp

theorem Ext.buildOf {g g' : GraphM} (h : Ext g g') (b : Nat) : buildOf g' b = buildOf g b := by
  unfold Work.buildOf; rw [h.builds]

theorem Ext.producer {g g' : GraphM} (h : Ext g g') (n : Bytes) : producerByName g' n = producerByName g n := by
  obtain ⟨x, hx, hn⟩ := h.files
  unfold producerByName
  rw [hx, List.find?_append]
  cases hf : g.files.find? (fun f => f.name == n) with
  | some f => simp
  | none =>
    simp only [Option.none_or, Option.bind_none]
    cases hx2 : x.find? (fun f => f.name == n) with
    | none => rfl
    | some f =>
      simp only [Option.bind_some]
      exact hn f (List.mem_of_find?_eq_some hx2)

theorem idFromCanonical_spec (g : GraphM) (n : Bytes) :
    Ext g (idFromCanonical g n).1 ∧ fileName (idFromCanonical g n).1 (idFromCanonical g n).2 = n ∧
    (idFromCanonical g n).2 < (idFromCanonical g n).1.files.length := by
  unfold idFromCanonical
  cases h : g.files.findIdx? (fun f => f.name == n) with
  | some i =>
    simp only []
    have := List.findIdx?_eq_some_iff_getElem.mp h
    obtain ⟨hi, hp, _⟩ := this
    refine ⟨Ext.refl g, ?_, hi⟩
    unfold fileName
    rw [List.getElem?_eq_getElem hi]
    simpa using hp
  | none =>
    simp only []
    refine ⟨⟨rfl, [⟨n, none, []⟩], rfl, by simp⟩, ?_, by simp⟩
    unfold fileName
    simp

theorem uniqueNames_snoc {g : GraphM} (h : UniqueNames g) (x : FileM) (hx : ∀ y ∈ g.files, y.name ≠ x.name) :
    UniqueNames { g with files := g.files ++ [x] } := by
  have key : ∀ k fk, (g.files ++ [x])[k]? = some fk →
      g.files[k]? = some fk ∨ (k = g.files.length ∧ fk = x) := by
    intro k fk hk
    rw [List.getElem?_append] at hk
    split at hk
    · exact Or.inl hk
    · next hlt =>
      obtain ⟨h1, h2⟩ := List.getElem?_eq_some_iff.mp hk
      simp only [List.length_singleton, Nat.lt_one_iff] at h1
      exact Or.inr ⟨by omega, by simpa [h1] using h2.symm⟩
  intro i j fi fj hi hj hname
  rcases key i fi hi with a | ⟨a, rfl⟩ <;> rcases key j fj hj with c | ⟨c, rfl⟩
  · exact h i j fi fj a c hname
  · exact absurd hname (hx fi (List.mem_of_getElem? a))
  · exact absurd hname.symm (hx fj (List.mem_of_getElem? c))
  · rw [a, c]

theorem idFromCanonical_unique (g : GraphM) (n : Bytes) (h : UniqueNames g) : UniqueNames (idFromCanonical g n).1 := by
  unfold idFromCanonical
  cases hf : g.files.findIdx? (fun f => f.name == n) with
  | some i => exact h
  | none => exact uniqueNames_snoc h _ (fun y hy => by simpa using List.findIdx?_eq_none_iff.mp hf y hy)

structure SameButGraph (a b : Env) : Prop where
  disc : b.disc = a.disc
  hashes : b.hashes = a.hashes
  cache : b.cache = a.cache
  fs : b.fs = a.fs
  clock : b.clock = a.clock
  log : b.log = a.log

theorem internFold_spec (ns : List Bytes) : ∀ (e : Env) (ids : List Nat) (pre : List Bytes),
    ids.map (fileName e.g) = pre → (∀ i ∈ ids, i < e.g.files.length) →
    let r := ns.foldl (fun (acc : Env × List Nat) n =>
      let (e', i) := intern acc.1 n
      (e', acc.2 ++ [i])) (e, ids)
    Ext e.g r.1.g ∧ SameButGraph e r.1 ∧ r.2.map (fileName r.1.g) = pre ++ ns ∧
      (∀ i ∈ r.2, i < r.1.g.files.length) := by
  induction ns with
  | nil =>
    intro e ids pre h1 h2
    simp only [List.foldl_nil, List.append_nil]
    exact ⟨Ext.refl _, ⟨rfl, rfl, rfl, rfl, rfl, rfl⟩, h1, h2⟩
  | cons n ns ih =>
    intro e ids pre h1 h2
    simp only [List.foldl_cons]
    obtain ⟨hx, hname, hlt⟩ := idFromCanonical_spec e.g n
    have hids : (ids ++ [(intern e n).2]).map (fileName (intern e n).1.g) = pre ++ [n] := by
      simp only [List.map_append, List.map_cons, List.map_nil]
      congr 1
      · rw [← h1]
        exact List.map_congr_left (fun i hi => hx.fileName_old i (h2 i hi))
      · simp only [intern]; rw [hname]
    have hlts : ∀ i ∈ ids ++ [(intern e n).2], i < (intern e n).1.g.files.length := by
      intro i hi
      rcases List.mem_append.mp hi with h | h
      · exact Nat.lt_of_lt_of_le (h2 i h) hx.length_le
      · simp only [List.mem_singleton] at h; subst h; exact hlt
    obtain ⟨a, b, c, d⟩ := ih (intern e n).1 (ids ++ [(intern e n).2]) (pre ++ [n]) hids hlts
    refine ⟨hx.trans a, ⟨b.disc, b.hashes, b.cache, b.fs, b.clock, b.log⟩, ?_, d⟩
    rw [c, List.append_assoc]; rfl

theorem internAll_spec (e : Env) (ns : List Bytes) :
    Ext e.g (internAll e ns).1.g ∧ SameButGraph e (internAll e ns).1 ∧
    (internAll e ns).2.map (fileName (internAll e ns).1.g) = ns ∧
    (∀ i ∈ (internAll e ns).2, i < (internAll e ns).1.g.files.length) := by
  have := internFold_spec ns e [] [] rfl (by simp)
  simpa [internAll] using this

/-- The latest record of `rs` attributed to step `b` (`acc` = the latest one before `rs`). -/
def lastRec (g : GraphM) (b : Nat) : List Rec → Option Rec → Option Rec
  | [], acc => acc
  | r :: rs, acc =>
    if Db.attributeRec (producerByName g) r.outs = some b then lastRec g b rs (some r) else lastRec g b rs acc

theorem lastRec_step (g : GraphM) (b : Nat) (r : Rec) (rs : List Rec) (acc : Option Rec) :
    lastRec g b (r :: rs) acc =
      if Db.attributeRec (producerByName g) r.outs = some b then lastRec g b rs (some r) else lastRec g b rs acc := rfl

theorem lastRec_acc (g : GraphM) (b : Nat) (rs : List Rec) (acc : Option Rec) :
    lastRec g b rs acc = (lastRec g b rs none).or acc := by
  induction rs generalizing acc with
  | nil => cases acc <;> rfl
  | cons r rs ih =>
    rw [lastRec_step, lastRec_step]
    split
    · rw [ih (some r)]
      cases lastRec g b rs none <;> simp
    · exact ih acc

theorem lastRec_cons (g : GraphM) (b : Nat) (r : Rec) (rs : List Rec) :
    lastRec g b (r :: rs) none =
      if Db.attributeRec (producerByName g) r.outs = some b then (lastRec g b rs none).or (some r)
      else lastRec g b rs none := by
  rw [lastRec_step, lastRec_acc g b rs (some r)]

theorem lastRec_congr (g g' : GraphM) (h : ∀ n, producerByName g' n = producerByName g n) (b : Nat)
    (rs : List Rec) (acc : Option Rec) : lastRec g' b rs acc = lastRec g b rs acc := by
  have : producerByName g' = producerByName g := funext h
  induction rs generalizing acc with
  | nil => rfl
  | cons r rs ih => rw [lastRec_step, lastRec_step, this]; split <;> exact ih _

theorem lastRec_append (g : GraphM) (b : Nat) (a c : List Rec) (acc : Option Rec) :
    lastRec g b (a ++ c) acc = lastRec g b c (lastRec g b a acc) := by
  induction a generalizing acc with
  | nil => rfl
  | cons r rs ih => rw [List.cons_append, lastRec_step, lastRec_step]; split <;> exact ih _

theorem lastRec_none_attributed (g : GraphM) (b : Nat) (rs : List Rec) (acc : Option Rec)
    (h : ∀ r ∈ rs, Db.attributeRec (producerByName g) r.outs ≠ some b) : lastRec g b rs acc = acc := by
  induction rs generalizing acc with
  | nil => rfl
  | cons r rs ih =>
    rw [lastRec_step, if_neg (h r List.mem_cons_self)]
    exact ih acc (fun x hx => h x (List.mem_cons_of_mem _ hx))

theorem lastRec_mem (g : GraphM) (b : Nat) (rs : List Rec) (acc : Option Rec) (r : Rec)
    (h : lastRec g b rs acc = some r) : r ∈ rs ∨ acc = some r := by
  induction rs generalizing acc with
  | nil => exact Or.inr h
  | cons r0 rs ih =>
    rw [lastRec_step] at h
    split at h
    · rcases ih _ h with h' | h'
      · exact Or.inl (List.mem_cons_of_mem _ h')
      · exact Or.inl (Option.some.inj h' ▸ List.mem_cons_self)
    · exact (ih _ h).imp_left (List.mem_cons_of_mem _)

theorem lastRec_snoc (g : GraphM) (b : Nat) (rs : List Rec) (r : Rec) :
    lastRec g b (rs ++ [r]) none =
      if Db.attributeRec (producerByName g) r.outs = some b then some r else lastRec g b rs none := by
  rw [lastRec_append, lastRec_step]
  rfl

theorem applyLog_unique (rs : List Rec) : ∀ (e : Env), UniqueNames e.g → UniqueNames (applyLog e rs).g :=
  applyLog_induct (P := fun e => UniqueNames e.g) (fun e n => idFromCanonical_unique e.g n) (fun _ _ _ h => h) rs

/-- What `e` remembers for step `b`: the names of its discovered dependencies (all valid ids) and
    its signature. -/
def Remembers (e : Env) (b : Nat) (r : Rec) : Prop :=
  (discOf e b).map (fileName e.g) = r.deps ∧ (∀ i ∈ discOf e b, i < e.g.files.length) ∧
  assocGet e.hashes b = some r.hash

theorem Remembers.ext {e e' : Env} {b : Nat} {r : Rec} (h : Remembers e b r) (hx : Ext e.g e'.g)
    (hd : discOf e' b = discOf e b) (hh : assocGet e'.hashes b = assocGet e.hashes b) : Remembers e' b r := by
  obtain ⟨h1, h2, h3⟩ := h
  refine ⟨?_, ?_, hh.trans h3⟩
  · rw [hd, ← h1]
    exact List.map_congr_left (fun i hi => hx.fileName_old i (h2 i hi))
  · rw [hd]; intro i hi; exact Nat.lt_of_lt_of_le (h2 i hi) hx.length_le

/-- **Start-up, for any log**: the graph only gains source files; tree, clock, log and cache are
    untouched; and for every step the discovered-dependency list and the signature are those of
    the LATEST record attributed to it (older records are replaced wholesale), or untouched when
    no record is attributed to it. -/
theorem applyLog_spec (rs : List Rec) : ∀ (e : Env),
    Ext e.g (applyLog e rs).g ∧
    (applyLog e rs).fs = e.fs ∧ (applyLog e rs).clock = e.clock ∧ (applyLog e rs).log = e.log ∧
    (applyLog e rs).cache = e.cache ∧
    ∀ b, (∀ r, lastRec e.g b rs none = some r → Remembers (applyLog e rs) b r) ∧
         (lastRec e.g b rs none = none → discOf (applyLog e rs) b = discOf e b ∧
            assocGet (applyLog e rs).hashes b = assocGet e.hashes b) := by
  induction rs with
  | nil =>
    intro e
    refine ⟨Ext.refl _, rfl, rfl, rfl, rfl, ?_⟩
    intro b
    exact ⟨fun r h => (nomatch h), fun _ => ⟨rfl, rfl⟩⟩
  | cons r0 rs ih =>
    intro e
    rw [applyLog_cons]
    cases hatt : Db.attributeRec (producerByName e.g) r0.outs with
    | none =>
      obtain ⟨a1, a2, a3, a4, a5, a6⟩ := ih e
      refine ⟨a1, a2, a3, a4, a5, fun b => ?_⟩
      rw [lastRec_cons, hatt, if_neg (by simp)]
      exact a6 b
    | some b0 =>
      simp only []
      obtain ⟨x1, x2, x3, x4⟩ := internAll_spec e r0.deps
      generalize he1 : ({ (internAll e r0.deps).1 with
          disc := assocPut (internAll e r0.deps).1.disc b0 (internAll e r0.deps).2,
          hashes := assocPut (internAll e r0.deps).1.hashes b0 r0.hash } : Env) = e1
      have hg1 : e1.g = (internAll e r0.deps).1.g := by subst he1; rfl
      have hx1 : Ext e.g e1.g := by rw [hg1]; exact x1
      obtain ⟨a1, a2, a3, a4, a5, a6⟩ := ih e1
      refine ⟨hx1.trans a1, ?_, ?_, ?_, ?_, ?_⟩
      · rw [a2]; subst he1; exact x2.fs
      · rw [a3]; subst he1; exact x2.clock
      · rw [a4]; subst he1; exact x2.log
      · rw [a5]; subst he1; exact x2.cache
      · intro b
        have hrem0 : b0 = b → Remembers e1 b r0 := by
          intro hb; subst hb he1
          refine ⟨?_, ?_, ?_⟩
          · simp only [discOf, assocGet_put_self, Option.getD_some]; exact x3
          · simp only [discOf, assocGet_put_self, Option.getD_some]; exact x4
          · simp only [assocGet_put_self]
        have hother : b0 ≠ b → discOf e1 b = discOf e b ∧ assocGet e1.hashes b = assocGet e.hashes b := by
          intro hb; subst he1
          have hb' : b ≠ b0 := fun h => hb h.symm
          refine ⟨?_, ?_⟩
          · simp only [discOf]; rw [assocGet_put_other _ _ _ _ hb', x2.disc]
          · simp only []; rw [assocGet_put_other _ _ _ _ hb', x2.hashes]
        obtain ⟨b1, b2⟩ := a6 b
        rw [lastRec_congr e.g e1.g hx1.producer] at b1 b2
        rw [lastRec_cons, hatt]
        cases hrs : lastRec e.g b rs none with
        | some r' =>
          have : (if some b0 = some b then (some r').or (some r0) else some r') = some r' := by split <;> rfl
          rw [this]
          exact ⟨fun r hr => Option.some.inj hr ▸ b1 r' hrs, fun hn => (nomatch hn)⟩
        | none =>
          obtain ⟨d1, d2⟩ := b2 hrs
          by_cases hb : b0 = b
          · rw [if_pos (by rw [hb])]
            exact ⟨fun r hr => Option.some.inj hr ▸ (hrem0 hb).ext a1 d1 d2, fun hn => (nomatch hn)⟩
          · rw [if_neg (fun h => hb (Option.some.inj h))]
            obtain ⟨o1, o2⟩ := hother hb
            exact ⟨fun r hr => (nomatch hr), fun _ => ⟨d1.trans o1, d2.trans o2⟩⟩

/-- **What `load::read` returns**: the manifest's graph, which meets the loader's invariant, with
    source files added for the names in the log; the world's tree, clock and log; an empty stat
    cache; and for every step the list and signature of the latest record attributed to it, or
    nothing. -/
theorem loadEnv_spec {w : World} {m : Bytes} {l : Loader} {e0 : Env} (h : loadEnv w m = .ok (l, e0)) :
    GInv l.graph ∧ Ext l.graph e0.g ∧ e0.fs = w.fs ∧ e0.clock = w.clock ∧ e0.log = w.log ∧ e0.cache = [] ∧
    ∀ b, (∀ r, lastRec l.graph b w.log none = some r → Remembers e0 b r) ∧
         (lastRec l.graph b w.log none = none → discOf e0 b = [] ∧ assocGet e0.hashes b = none) := by
  obtain ⟨hl, rfl⟩ := loadEnv_ok_iff.mp h
  exact ⟨load_inv false _ _ _ hl, applyLog_spec w.log
    { g := l.graph, disc := [], hashes := [], cache := [], fs := w.fs, clock := w.clock, log := w.log }⟩

/-- From a clean answer: the recorded signature's dependency part is the remembered names with
    their CURRENT modification times, and every remembered name exists. -/
theorem clean_means_deps_unchanged (e : Env) (hc : Coh e) (b : Nat) (bm : BuildM) (hb : buildOf e.g b = some bm)
    (hnp : bm.cmdline.isNone = false) (r : Rec) (hrem : Remembers e b r)
    (h : (checkDirty e b).1 = some false) :
    (∀ n ∈ r.deps, (e.fs.get n).isSome = true) ∧
    r.hash.disc = r.deps.map (fun n => (n, ((e.fs.get n).map (·.mtime)).getD 0)) := by
  obtain ⟨h1, _, h3⟩ := hrem
  have u := clean_means_upToDate e hc b bm hb hnp h
  have hhash : r.hash = manifestFs e bm b := Option.some.inj (h3.symm.trans u.recorded)
  constructor
  · intro n hn
    rw [← h1] at hn
    obtain ⟨f, hf, rfl⟩ := List.mem_map.mp hn
    have := u.present f (by simp [hf])
    unfold mtimeOf at this
    rwa [Option.isSome_map] at this
  · rw [hhash, ← h1, List.map_map]
    rfl

/-- The record `record_finished` writes: outputs by name, the kept dependency list by name, and
    a signature whose dependency part lists exactly those names. -/
theorem recordFinished_record (e : Env) (b : Nat) (bm : BuildM) (hb : buildOf e.g b = some bm)
    (deps : Option (List Bytes)) :
    (recordFinished e b deps).log = e.log ∨
    ∃ rec, (recordFinished e b deps).log = e.log ++ [rec] ∧
      rec.outs = bm.outs.map (fileName (recordFinished e b deps).g) ∧
      rec.deps = (discOf (recordFinished e b deps) b).map (fileName (recordFinished e b deps).g) ∧
      rec.hash.disc.map (·.1) = rec.deps := by
  have hlog := (recordFinished_spec e b bm hb deps).2.2.2.2.2.2.2
  split at hlog
  · exact Or.inr ⟨_, hlog, rfl, rfl, by simp [manifestOf]⟩
  · exact Or.inl hlog

end N2V.Work
