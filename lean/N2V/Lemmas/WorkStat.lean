/-
  The stat cache (`FileState`).  Every round of stat()s in the dirtiness check and in
  `record_finished` — `ensure_input_files`, `stat_all_outputs`, the re-stat of `record_finished` —
  leaves the state it started from with some list of files stat()ed: `statMany e l`.  What that
  does to the cache is `statMany_cache`; that nothing else changes is `statMany_same`.
-/
import N2V.Lemmas.Work
namespace N2V.Work
open N2V N2V.Load

/-- The mtime `stat()` reports for file `f` now. -/
def mtimeOf (e : Env) (f : Nat) : MTime := (e.fs.get (fileName e.g f)).map (·.mtime)

theorem mtimeOf_same {a b : Env} (h : SameButCache a b) (f : Nat) : mtimeOf b f = mtimeOf a f := by
  unfold mtimeOf; rw [h.fs, h.g]

theorem statFile_fst (e : Env) (f : Nat) : (statFile e f).1 = mtimeOf e f := rfl

theorem statFile_eq {e : Env} {f : Nat} {m : MTime} {e1 : Env} (h : statFile e f = (m, e1)) :
    m = mtimeOf e f ∧ e1 = (statFile e f).2 := by
  cases h; exact ⟨rfl, rfl⟩

theorem statFile_cache (e : Env) (f x : Nat) :
    assocGet (statFile e f).2.cache x = if x = f then some (mtimeOf e f) else assocGet e.cache x :=
  assocGet_assocPut e.cache f x _

/-- `e` after `FileState::stat` on each file of `l` in turn. -/
def statMany (e : Env) (l : List Nat) : Env := l.foldl (fun e f => (statFile e f).2) e

theorem statMany_cons (e : Env) (f : Nat) (l : List Nat) : statMany e (f :: l) = statMany (statFile e f).2 l := rfl

theorem statMany_append (e : Env) (l l' : List Nat) : statMany e (l ++ l') = statMany (statMany e l) l' :=
  List.foldl_append

theorem statMany_same (l : List Nat) : ∀ e : Env, SameButCache e (statMany e l) := by
  induction l with
  | nil => exact SameButCache.refl
  | cons f l ih => exact fun e => (statFile_same e f).trans (ih _)

theorem mtimeOf_statMany (e : Env) (l : List Nat) (f : Nat) : mtimeOf (statMany e l) f = mtimeOf e f :=
  mtimeOf_same (statMany_same l e) f

theorem statMany_cache (x : Nat) (l : List Nat) : ∀ e : Env,
    assocGet (statMany e l).cache x = if x ∈ l then some (mtimeOf e x) else assocGet e.cache x := by
  induction l with
  | nil => intro e; rfl
  | cons f l ih =>
    intro e
    rw [statMany_cons, ih, statFile_cache]
    by_cases hl : x ∈ l
    · simp only [hl, List.mem_cons, or_true, if_true]; rfl
    · by_cases hf : x = f
      · simp only [hf, List.mem_cons, true_or, if_true, if_neg (hf ▸ hl)]
      · simp only [hl, hf, List.mem_cons, or_self, if_false]

/-- `stat_all_outputs`, from any first-missing-so-far `a`. -/
theorem statAllOutputs_fold (l : List Nat) : ∀ (e : Env) (a : Option Nat),
    l.foldl (fun (acc : Option Nat × Env) o =>
        let (m, e') := statFile acc.2 o
        (if m.isNone && acc.1.isNone then some o else acc.1, e')) (a, e) =
      (a.or (l.find? (fun o => (mtimeOf e o).isNone)), statMany e l) := by
  induction l with
  | nil => intro e a; cases a <;> rfl
  | cons o l ih =>
    intro e a
    show List.foldl _ (if (mtimeOf e o).isNone && a.isNone then some o else a, (statFile e o).2) l = _
    rw [ih, List.find?_cons]
    cases a <;> cases (mtimeOf e o).isNone <;> rfl

theorem statAllOutputs_eq (e : Env) (l : List Nat) :
    statAllOutputs e l = (l.find? (fun o => (mtimeOf e o).isNone), statMany e l) :=
  statAllOutputs_fold l e none

theorem statAllOutputs_snd (e : Env) (l : List Nat) : (statAllOutputs e l).2 = statMany e l := by
  rw [statAllOutputs_eq]

/-- The re-stat fold of `record_finished`, from any missing-so-far `a`. -/
theorem restatFold_eq (l : List Nat) : ∀ (e : Env) (a : Bool),
    l.foldl (fun (acc : Bool × Env) f =>
        let (m, e') := statFile acc.2 f
        (acc.1 || m.isNone, e')) (a, e) =
      (a || l.any (fun f => (mtimeOf e f).isNone), statMany e l) := by
  induction l with
  | nil => intro e a; cases a <;> rfl
  | cons f l ih =>
    intro e a
    show List.foldl _ (a || (mtimeOf e f).isNone, (statFile e f).2) l = _
    rw [ih, List.any_cons, Bool.or_assoc]
    rfl

theorem firstMissing_none_iff (e : Env) (l : List Nat) :
    l.find? (fun o => (mtimeOf e o).isNone) = none ↔ ∀ o ∈ l, (mtimeOf e o).isSome = true := by
  rw [List.find?_eq_none]
  simp only [Bool.not_eq_true, Option.isNone_eq_false_iff]

theorem anyMissing_false_iff (e : Env) (l : List Nat) :
    l.any (fun f => (mtimeOf e f).isNone) = false ↔ ∀ f ∈ l, (mtimeOf e f).isSome = true := by
  rw [List.any_eq_false]
  simp only [Bool.not_eq_true, Option.isNone_eq_false_iff]

theorem statAllOutputs_fst_none (e : Env) (outs : List Nat) :
    (statAllOutputs e outs).1 = none ↔ ∀ o ∈ outs, (mtimeOf e o).isSome = true := by
  rw [statAllOutputs_eq]; exact firstMissing_none_iff e outs

/-- Every cached answer is what `stat()` would answer now. -/
def Coh (e : Env) : Prop := ∀ f m, assocGet e.cache f = some m → m = mtimeOf e f

def Cached (e : Env) (f : Nat) : Prop := (assocGet e.cache f).isSome = true

theorem cached_iff {e : Env} {f : Nat} : Cached e f ↔ ∃ m, assocGet e.cache f = some m :=
  Option.isSome_iff_exists

theorem statMany_cached {e : Env} {l : List Nat} {f : Nat} : Cached (statMany e l) f ↔ f ∈ l ∨ Cached e f := by
  unfold Cached
  rw [statMany_cache]
  by_cases h : f ∈ l <;> simp [h]

structure Grew (a b : Env) : Prop extends SameButCache a b where
  coh : Coh b
  mono : ∀ f, Cached a f → Cached b f

theorem Grew.refl {a : Env} (h : Coh a) : Grew a a := ⟨SameButCache.refl a, h, fun _ h => h⟩

theorem Grew.trans {a b c : Env} (h1 : Grew a b) (h2 : Grew b c) : Grew a c :=
  ⟨h1.toSameButCache.trans h2.toSameButCache, h2.coh, fun f h => h2.mono f (h1.mono f h)⟩

theorem statMany_grew {e : Env} (hc : Coh e) (l : List Nat) : Grew e (statMany e l) := by
  refine ⟨statMany_same l e, ?_, fun f hf => statMany_cached.mpr (Or.inr hf)⟩
  intro f m hm
  rw [mtimeOf_statMany]
  rw [statMany_cache] at hm
  split at hm
  · exact (Option.some.inj hm).symm
  · exact hc f m hm

theorem ensureInputs_ok {e : Env} {l : List Nat} : ∀ {r : Option Nat} {e' : Env}, ensureInputs e l = .ok (r, e') →
    ∃ l', e' = statMany e l' ∧ (∀ f ∈ l', f ∈ l ∧ assocGet e.cache f = none) ∧
      match r with
      | none => ∀ f ∈ l, ∃ t, assocGet e'.cache f = some (some t)
      | some f => f ∈ l ∧ assocGet e'.cache f = some none := by
  fun_induction ensureInputs e l with
  | case1 e => intro r e' h; cases h; exact ⟨[], rfl, nofun, nofun⟩
  | case2 e f fs m hm hn =>
    intro r e' h
    cases h
    exact ⟨[], rfl, nofun, List.mem_cons_self, by rw [hm, Option.isNone_iff_eq_none.mp hn]⟩
  | case3 e f fs m hm hn ih =>
    intro r e' h
    obtain ⟨l', rfl, hl', hr⟩ := ih h
    refine ⟨l', rfl, fun x hx => ⟨List.mem_cons_of_mem _ (hl' x hx).1, (hl' x hx).2⟩, ?_⟩
    cases r with
    | some x => exact ⟨List.mem_cons_of_mem _ hr.1, hr.2⟩
    | none =>
      intro x hx
      rcases List.mem_cons.mp hx with rfl | hx
      · cases m with
        | none => exact absurd rfl hn
        | some t =>
          refine ⟨t, ?_⟩
          rw [statMany_cache, if_neg (fun hx => by rw [(hl' x hx).2] at hm; cases hm), hm]
      · exact hr x hx
  | case4 e f fs hm hg => intro r e' h; cases h
  | case5 e f fs hm hg m e1 hs hn =>
    intro r e' h
    obtain ⟨rfl, rfl⟩ := statFile_eq hs
    cases h
    refine ⟨[f], rfl, fun x hx => by rw [List.mem_singleton.mp hx]; exact ⟨List.mem_cons_self, hm⟩,
      List.mem_cons_self, ?_⟩
    rw [statFile_cache, if_pos rfl, Option.isNone_iff_eq_none.mp hn]
  | case6 e f fs hm hg m e1 hs hn ih =>
    intro r e' h
    obtain ⟨rfl, rfl⟩ := statFile_eq hs
    obtain ⟨l', rfl, hl', hr⟩ := ih h
    -- files stat()ed later were not cached after the stat of `f`, so neither before it
    have hne : ∀ x ∈ l', assocGet e.cache x = none := by
      intro x hx
      have := (hl' x hx).2
      rw [statFile_cache] at this
      split at this
      · cases this
      · exact this
    refine ⟨f :: l', rfl, ?_, ?_⟩
    · intro x hx
      rcases List.mem_cons.mp hx with rfl | hx
      · exact ⟨List.mem_cons_self, hm⟩
      · exact ⟨List.mem_cons_of_mem _ (hl' x hx).1, hne x hx⟩
    · cases r with
      | some x => exact ⟨List.mem_cons_of_mem _ hr.1, hr.2⟩
      | none =>
        intro x hx
        rcases List.mem_cons.mp hx with rfl | hx
        · cases ht : mtimeOf e x with
          | none => exact absurd (by rw [ht]; rfl) hn
          | some t => exact ⟨t, by rw [← statMany_cons, statMany_cache, if_pos List.mem_cons_self, ht]⟩
        · exact hr x hx

theorem ensureInputs_total (l : List Nat) (e : Env)
    (h : ∀ f ∈ l, fileInput e.g f = none ∨ Cached e f) : ∃ r e', ensureInputs e l = .ok (r, e') := by
  fun_induction ensureInputs e l with
  | case1 e => exact ⟨_, _, rfl⟩
  | case2 => exact ⟨_, _, rfl⟩
  | case3 e f fs m hm hn ih => exact ih (fun x hx => h x (List.mem_cons_of_mem _ hx))
  | case4 e f fs hm hg =>
    rcases h f List.mem_cons_self with h' | h'
    · rw [h'] at hg; cases hg
    · unfold Cached at h'; rw [hm] at h'; cases h'
  | case5 => exact ⟨_, _, rfl⟩
  | case6 e f fs hm hg m e1 hs hn ih =>
    obtain ⟨rfl, rfl⟩ := statFile_eq hs
    exact ih (fun x hx => (h x (List.mem_cons_of_mem _ hx)).imp id
      (fun hc => statMany_cached (l := [f]).mpr (Or.inr hc)))

/-- `hg` keeps `ensure_input_files` off its error branch ("used generated file .., but has no
    dependency path to it"). -/
theorem ensureInputs_present (l : List Nat) (e : Env) (hc : Coh e)
    (hp : ∀ f ∈ l, (mtimeOf e f).isSome = true)
    (hg : ∀ f ∈ l, (fileInput e.g f).isSome = true → Cached e f) :
    ∃ e', ensureInputs e l = .ok (none, e') ∧ Grew e e' ∧ ∀ f ∈ l, Cached e' f := by
  obtain ⟨r, e', h⟩ := ensureInputs_total l e (fun f hf => by
    cases hi : fileInput e.g f with
    | none => exact Or.inl rfl
    | some p => exact Or.inr (hg f hf (by rw [hi]; rfl)))
  obtain ⟨l', rfl, _, hr⟩ := ensureInputs_ok h
  have g := statMany_grew hc l'
  cases r with
  | none => exact ⟨_, h, g, fun f hf => cached_iff.mpr ⟨_, (hr f hf).choose_spec⟩⟩
  | some f =>
    -- `f` would be cached as missing, but the cache is truthful and `f` is there
    have hmiss := g.coh f none hr.2
    rw [mtimeOf_same g.toSameButCache] at hmiss
    have := hp f hr.1
    rw [← hmiss] at this
    cases this

end N2V.Work
