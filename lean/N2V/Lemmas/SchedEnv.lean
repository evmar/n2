/-
  The scheduler only threads the environment: whatever property of it the three environment
  operations (`check_build_dirty`, a command's success with `record_finished`, `-t restat`'s
  adoption) preserve is preserved by `Work::run` and by the whole of `run::build`.
-/
import N2V.Lemmas.SchedMoves
namespace N2V.Sched
variable {E : Type} {g : Graph} {par : Nat} {c : Choices E} {P : E → Prop}
  (hc : ∀ e b, P e → P (c.check e b).2) (hs : ∀ e b, P e → P (c.onSuccess e b))
  (ha : ∀ e b, P e → P (c.onAdopt e b))
include hc

theorem check_env {e e1 : E} {b : Nat} {d : Option Bool} (pe : P e) (h : c.check e b = (d, e1)) : P e1 := by
  have := hc e b pe
  rwa [h] at this

include hs in
theorem Ends.env {s e s' e' r} (h : Ends g par c s e s' e' r) (pe : P e) : P e' := by
  cases h with
  | checkErr _ hck | readyFault _ hck | noPool _ hck => exact check_env hc pe hck
  | succFault => exact hs _ _ pe
  | _ => exact pe

include hs ha

theorem Step.env {s e s' e'} (h : Step g par c s e s' e') (pe : P e) : P e' := by
  cases h with
  | update | start | failed => exact pe
  | clean _ _ hck | enqueue _ hck => exact check_env hc pe hck
  | adopt _ _ hck => exact ha _ _ (check_env hc pe hck)
  | succeeded => exact hs _ _ pe

end N2V.Sched

namespace N2V.Run
open N2V N2V.Sched
variable {E : Type} {g : Graph} {a : Args} {c : Choices E} {P : E → Prop}

theorem Runs.env (hc : ∀ e b, P e → P (c.check e b).2) (hs : ∀ e b, P e → P (c.onSuccess e b))
    (ha : ∀ e b, P e → P (c.onAdopt e b)) {tb : Nat} {s : S} {e : E} {r : S × E × Outcome}
    (h : Runs g a c tb s e r) (pe : P e) : P r.2.1 := by
  obtain ⟨s', e', hm, hst⟩ := h
  have pe' : P e' := by
    clear hst
    induction hm with
    | refl => exact pe
    | head m _ ih =>
      cases m with
      | want => exact ih pe
      | step st => exact ih (st.env hc hs ha pe)
  cases hst with
  | wantErr | unknown | panic => exact pe'
  | reload h | done h | other h => exact h.env hc hs pe'

/-- **`run::build` preserves every property of the environment that the dirtiness check, a
    command's completion and `-t restat` adoption preserve.** -/
theorem build_env (g : Graph) (a : Args) (c : Choices E) (P : E → Prop)
    (hc : ∀ e b, P e → P (c.check e b).2) (hs : ∀ e b, P e → P (c.onSuccess e b))
    (ha : ∀ e b, P e → P (c.onAdopt e b)) (e : E) (pe : P e) : P (build g a c e).2.1 :=
  (build_runs g a c e).env hc hs ha pe

theorem buildReloaded_env (g : Graph) (a : Args) (c : Choices E) (P : E → Prop)
    (hc : ∀ e b, P e → P (c.check e b).2) (hs : ∀ e b, P e → P (c.onSuccess e b))
    (ha : ∀ e b, P e → P (c.onAdopt e b)) (e : E) (n : Nat) (pe : P e) : P (buildReloaded g a c e n).2.1 :=
  (buildReloaded_runs g a c e n).env hc hs ha pe

end N2V.Run
