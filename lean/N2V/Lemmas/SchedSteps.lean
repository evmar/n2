/-
  `Work::run` as a transition system on configurations `(s, e)`: scheduler state and environment.

  `Step` lists the moves of the run loop, each with the guards the code tests before making it;
  every move keeps the scheduler invariant (`Step.inv`).  `Ends` lists the ways the loop stops,
  with the state, environment and result it reports.  `runLoop_spec` shows, by induction over
  `startLoop` / `readyLoop` / `runLoop`, that a run is a sequence of moves (`Steps`) followed by
  one stop.  The relation forgets the fuel and the lists of choices: a move may promote in any
  order and finish any running command, so it allows every run of `runLoop` and more.

  Whatever is kept by each move therefore holds of every run (`Steps.induct`, `Steps.rel`), and
  what a result says about the final state is read off `Ends` (`Ends.ok_true`, `Ends.ok`,
  `Ends.bug`, `Ends.shape`): an invariant needs one lemma per move and one per stop.
-/
import N2V.Lemmas.SchedStep
namespace N2V.Sched
variable {E : Type}

/-- `*failures_left -= 1` as `Work::run` performs it when a failure does not end the run. -/
def Budget (k k' : Option Nat) : Prop :=
  (k = none ∧ k' = k) ∨ ∃ n, k = some n ∧ n ≠ 0 ∧ n - 1 ≠ 0 ∧ k' = some (n - 1)

/-- The state right after `Runner::wait` reported `(id, t)`. -/
def waited (s : S) (id : Nat) (t : Term) : S :=
  { s with running := s.running - 1, trace := Ev.finish id t :: s.trace }

/-- One move of `Work::run`: the `update` at the head of an iteration, a start (`startLoop`), the
    three branches of `readyLoop`, a command that failed within the `-k` budget, one that
    succeeded.  Any `perm` will do, and any running `id`. -/
inductive Step (g : Graph) (par : Nat) (c : Choices E) : S → E → S → E → Prop
  | update (s e) : Step g par c s e { s with trace := Ev.update (countsList s.counts) :: s.trace } e
  | start {s id pools s1} (e) (hlt : s.running < (par : Int)) (hpop : popQueued s.pools = some (id, pools))
      (h : set g { s with pools := pools } id .running = .ok s1) :
      Step g par c s e { s1 with running := s1.running + 1, trace := Ev.start id :: s1.trace } e
  | clean {s e id rest e1 s1} (perm) (hr : s.ready = id :: rest) (hc : c.check e id = (some false, e1))
      (h : readyDependents g { s with ready := rest } id perm = .ok s1) : Step g par c s e s1 e1
  | adopt {s e id rest e1 s1} (perm) (hr : s.ready = id :: rest) (hc : c.check e id = (some true, e1))
      (ha : c.adopt = true) (h : readyDependents g { s with ready := rest } id perm = .ok s1) :
      Step g par c s e s1 (c.onAdopt e1 id)
  | enqueue {s e id rest e1 s1} (hr : s.ready = id :: rest) (hc : c.check e id = (some true, e1))
      (ha : c.adopt = false) (h : enqueueRun g { s with ready := rest } id = .inl s1) :
      Step g par c s e s1 e1
  | failed {s id k s1} (e) (hst : s.st id = .running) (hk : Budget s.failuresLeft k)
      (h : set g { waited s id .failure with failuresLeft := k, tasksFailed := s.tasksFailed + 1 } id .failed = .ok s1) :
      Step g par c s e s1 e
  | succeeded {s id s1} (e perm) (hst : s.st id = .running)
      (h : readyDependents g { waited s id .success with tasksRun := s.tasksRun + 1 } id perm = .ok s1) :
      Step g par c s e s1 (c.onSuccess e id)

inductive Steps (g : Graph) (par : Nat) (c : Choices E) : S → E → S → E → Prop
  | refl (s e) : Steps g par c s e s e
  | head {s e s1 e1 s2 e2} : Step g par c s e s1 e1 → Steps g par c s1 e1 s2 e2 → Steps g par c s e s2 e2

variable {g : Graph} {par : Nat} {c : Choices E}

theorem Steps.trans {s e s1 e1 s2 e2}
    (h1 : Steps g par c s e s1 e1) (h2 : Steps g par c s1 e1 s2 e2) : Steps g par c s e s2 e2 := by
  induction h1 with
  | refl => exact h2
  | head st _ ih => exact .head st (ih h2)

theorem Step.inv {s e s' e'} (h : Step g par c s e s' e')
    (inv : Inv g par s) : Inv g par s' := by
  cases h with
  | update => exact inv.congr rfl rfl rfl rfl rfl rfl
  | start _ hlt hpop h => exact start_inv inv hlt hpop h
  | clean _ hr _ h => exact clean_inv inv hr h
  | adopt _ hr _ _ h => exact clean_inv inv hr h
  | enqueue hr _ _ h => exact enqueue_inv inv hr h
  | failed _ hst _ h => exact failed_inv _ inv hst (by exact ⟨rfl, rfl, rfl, rfl, rfl⟩) (by exact rfl) h
  | succeeded _ _ hst h => exact succeeded_inv _ inv hst (by exact ⟨rfl, rfl, rfl, rfl, rfl⟩) (by exact rfl) h

theorem Steps.one {s e s1 e1} (h : Step g par c s e s1 e1) : Steps g par c s e s1 e1 :=
  .head h (.refl _ _)

theorem Steps.inv {s e s' e'} (h : Steps g par c s e s' e') (inv : Inv g par s) : Inv g par s' := by
  induction h with
  | refl => exact inv
  | head st _ ih => exact ih (st.inv inv)

/-- A property of configurations kept by every move made from a state satisfying the scheduler
    invariant holds along the whole run. -/
theorem Steps.induct {P : S → E → Prop} {s e s' e'} (h : Steps g par c s e s' e')
    (inv : Inv g par s) (hP : P s e)
    (step : ∀ {s e s' e'}, Inv g par s → P s e → Step g par c s e s' e' → P s' e') : P s' e' := by
  induction h with
  | refl => exact hP
  | head st _ ih => exact ih (st.inv inv) (step inv hP st)

/-- A preorder on states that contains every move contains every run. -/
theorem Steps.rel {R : S → S → Prop} (refl : ∀ s, R s s) (trans : ∀ {a b c}, R a b → R b c → R a c)
    {s e s' e'} (h : Steps g par c s e s' e') (inv : Inv g par s)
    (step : ∀ {s e s' e'}, Inv g par s → Step g par c s e s' e' → R s s') : R s s' := by
  induction h with
  | refl => exact refl _
  | head st _ ih => exact trans (step inv st) (ih (st.inv inv))

/-- Results that only an internal failure (`set` on an unknown pool, a panic) produces. -/
def Fault (r : RunResult) : Prop := ∃ m, r = .err m ∨ r = .panic m

theorem resToRun_fault {s0 se : S} {r : Res S} {x : RunResult} (h : resToRun s0 r = .inr (se, x)) :
    se = s0 ∧ Fault x := by
  unfold resToRun at h
  split at h <;> cases h
  · exact ⟨rfl, _, .inl rfl⟩
  all_goals exact ⟨rfl, _, .inr rfl⟩

theorem Fault.ne_ok {r : RunResult} (h : Fault r) (b : Bool) : r ≠ .ok b := by
  obtain ⟨m, rfl | rfl⟩ := h <;> simp

theorem Fault.ne_bug {r : RunResult} (h : Fault r) : r ≠ .bug := by
  obtain ⟨m, rfl | rfl⟩ := h <;> simp

theorem Fault.ne_fuel {r : RunResult} (h : Fault r) : r ≠ .fuel := by
  obtain ⟨m, rfl | rfl⟩ := h <;> simp

/-- How `Work::run` stops in the configuration `(s, e)` it has reached: the state, environment
    and result it reports. -/
inductive Ends (g : Graph) (par : Nat) (c : Choices E) : S → E → S → E → RunResult → Prop
  | done {s} (e) (hp : s.pending ≤ 0) : Ends g par c s e s e (.ok (s.tasksFailed == 0))
  | fuel (s e) : Ends g par c s e s e .fuel
  | fault (s e) {r} (hf : Fault r) : Ends g par c s e s e r
  | checkErr {s e id rest e1} (hr : s.ready = id :: rest) (hc : c.check e id = (none, e1)) :
      Ends g par c s e { s with ready := rest } e1 (.err "check_build_dirty")
  | readyFault {s e id rest d e1 r} (hr : s.ready = id :: rest) (hc : c.check e id = (some d, e1))
      (hf : Fault r) : Ends g par c s e { s with ready := rest } e1 r
  | noPool {s e id rest e1 s1} (hr : s.ready = id :: rest) (hc : c.check e id = (some true, e1))
      (h : set g { s with ready := rest } id .queued = .ok s1) :
      Ends g par c s e s1 e1 (.err "unknown pool")
  | stalled {s} (e) (hp : ¬ s.pending ≤ 0) (hr : s.ready = [])
      (hq : ¬ s.running < (par : Int) ∨ popQueued s.pools = none) (hrun : s.running ≤ 0) :
      Ends g par c s e s e (if s.tasksFailed > 0 then .ok false else .bug)
  | stuck (s e) : Ends g par c s e s e .stuck
  | interrupted {s id} (e) (hst : s.st id = .running) :
      Ends g par c s e (waited s id .interrupted) e (.ok false)
  | overBudget {s id} (e) (hst : s.st id = .running) (hk : s.failuresLeft = some 0) :
      Ends g par c s e (waited s id .failure) e (.panic "attempt to subtract with overflow")
  | lastFailure {s id} (e) (hst : s.st id = .running) (hk : s.failuresLeft = some 1) :
      Ends g par c s e { waited s id .failure with failuresLeft := some 0 } e (.ok false)
  | failFault {s id r} (e) (hst : s.st id = .running) (hf : Fault r) :
      Ends g par c s e (waited s id .failure) e r
  | succFault {s id r} (e) (hst : s.st id = .running) (hf : Fault r) :
      Ends g par c s e (waited s id .success) (c.onSuccess e id) r

/-- What `startLoop` from `(s, p)` returns: on the normal exit a state reached by `start` moves,
    and either progress or the unchanged state with the reason why nothing could start. -/
def StartPost (g : Graph) (par : Nat) (c : Choices E) (s : S) (e : E) (p : Bool) :
    Sum (S × Bool) (S × RunResult) → Prop
  | .inl (s', p') => Steps g par c s e s' e ∧
      (p' = true ∨ (p' = p ∧ s' = s ∧ (¬ s.running < (par : Int) ∨ popQueued s.pools = none)))
  | .inr (se, r) => Steps g par c s e se e ∧ (r = .fuel ∨ Fault r)

theorem StartPost.head {s e s1} {p : Bool} (st : Step g par c s e s1 e) :
    ∀ {x}, StartPost g par c s1 e true x → StartPost g par c s e p x
  | .inl _, h => ⟨.head st h.1, .inl (h.2.elim (·) (·.1))⟩
  | .inr _, h => ⟨.head st h.1, h.2⟩

theorem startLoop_spec (e : E) (fuel : Nat) (s : S) (p : Bool) :
    StartPost g par c s e p (startLoop g par fuel s p) := by
  fun_induction startLoop g par fuel s p with
  | case1 => exact ⟨.refl _ _, .inl rfl⟩
  | case2 _ _ _ _ hpop => exact ⟨.refl _ _, .inr ⟨rfl, rfl, .inr hpop⟩⟩
  | case3 _ _ _ hlt _ _ hpop _ hs _ ih => exact .head (.start e hlt hpop (resToRun_inl hs)) ih
  | case4 _ _ _ _ _ _ _ _ hs =>
    obtain ⟨rfl, hf⟩ := resToRun_fault hs
    exact ⟨.refl _ _, .inr hf⟩
  | case5 _ _ _ hlt => exact ⟨.refl _ _, .inr ⟨rfl, rfl, .inl hlt⟩⟩

theorem enqueueRun_ends {s : S} {e e1 : E} {id : Nat} {rest : List Nat} {se : S} {r : RunResult}
    (hr : s.ready = id :: rest) (hc : c.check e id = (some true, e1))
    (h : enqueueRun g { s with ready := rest } id = .inr (se, r)) : Ends g par c s e se e1 r := by
  unfold enqueueRun at h
  split at h
  · rename_i s1 hs
    split at h <;> cases h
    exact .noPool hr hc hs
  · obtain ⟨rfl, hf⟩ := resToRun_fault h
    exact .readyFault hr hc hf

/-- What `readyLoop` from `(s, e, p)` returns: on the normal exit the ready queue is empty. -/
def ReadyPost (g : Graph) (par : Nat) (c : Choices E) (s : S) (e : E) (p : Bool) :
    Sum (S × E × List (List Nat) × Bool) (S × E × RunResult) → Prop
  | .inl (s', e', _, p') => Steps g par c s e s' e' ∧ s'.ready = [] ∧
      (p' = true ∨ (p' = p ∧ s' = s ∧ e' = e))
  | .inr (se, e', r) => ∃ s1 e1, Steps g par c s e s1 e1 ∧ Ends g par c s1 e1 se e' r

theorem ReadyPost.head {s e s1 e1} {p : Bool} (st : Step g par c s e s1 e1) :
    ∀ {x}, ReadyPost g par c s1 e1 true x → ReadyPost g par c s e p x
  | .inl _, h => ⟨.head st h.1, h.2.1, .inl (h.2.2.elim (·) (·.1))⟩
  | .inr _, ⟨s2, e2, h, he⟩ => ⟨s2, e2, .head st h, he⟩

theorem readyLoop_spec (fuel : Nat) (s : S) (e : E) (perms : List (List Nat)) (p : Bool) :
    ReadyPost g par c s e p (readyLoop g c fuel s e perms p) := by
  fun_induction readyLoop g c fuel s e perms p with
  | case1 s e => exact ⟨s, e, .refl _ _, .fuel _ _⟩
  | case2 _ _ _ _ _ hr => exact ⟨.refl _ _, hr, .inr ⟨rfl, rfl, rfl⟩⟩
  | case3 _ s e _ _ _ _ hr _ _ hc => exact ⟨s, e, .refl _ _, .checkErr hr hc⟩
  | case4 _ _ _ _ _ _ _ hr _ dirty _ hc hd _ hs ih =>
    have hd : dirty = false := by simpa using hd
    subst hd
    exact .head (.clean _ hr hc (resToRun_inl hs)) ih
  | case6 _ _ _ _ _ _ _ hr _ dirty _ hc hd ha _ hs ih =>
    have hd : dirty = true := by simpa using hd
    subst hd
    exact .head (.adopt _ hr hc ha (resToRun_inl hs)) ih
  | case8 _ _ _ _ _ _ _ hr _ dirty _ hc hd ha _ hs ih =>
    have hd : dirty = true := by simpa using hd
    subst hd
    exact .head (.enqueue hr hc (by simpa using ha) hs) ih
  | case5 _ s e _ _ _ _ hr _ _ _ hc _ _ _ hs
  | case7 _ s e _ _ _ _ hr _ _ _ hc _ _ _ _ hs =>
    obtain ⟨rfl, hf⟩ := resToRun_fault hs
    exact ⟨s, e, .refl _ _, .readyFault hr hc hf⟩
  | case9 _ s e _ _ _ _ hr _ dirty _ hc hd _ _ _ hs =>
    have hd : dirty = true := by simpa using hd
    subst hd
    exact ⟨s, e, .refl _ _, enqueueRun_ends hr hc hs⟩

/-- A run from `(s, e)` reporting `o`: moves to some configuration, where it stops. -/
def RunPost (g : Graph) (par : Nat) (c : Choices E) (s : S) (e : E) (o : RunOut E) : Prop :=
  ∃ s' e', Steps g par c s e s' e' ∧ Ends g par c s' e' o.s o.e o.result

theorem RunPost.trans {s e s1 e1} {o : RunOut E} (h : Steps g par c s e s1 e1) :
    RunPost g par c s1 e1 o → RunPost g par c s e o
  | ⟨s2, e2, h2, he⟩ => ⟨s2, e2, h.trans h2, he⟩

/-- One round of the two inner loops, both leaving by their normal exit: a sequence of moves
    after which nothing is ready; if neither loop progressed, only the `update` event was added
    and nothing can start. -/
theorem round_spec {s s1 s2 : S} {e e2 : E} {perms perms2 : List (List Nat)} {p1 p2 : Bool}
    (h1 : startLoop g par (g.nBuilds + 1)
      { s with trace := Ev.update (countsList s.counts) :: s.trace } false = .inl (s1, p1))
    (h2 : readyLoop g c (g.nBuilds + 1) s1 e perms false = .inl (s2, e2, perms2, p2)) :
    Steps g par c s e s2 e2 ∧ s2.ready = [] ∧
      (¬ (p1 || p2) = true →
        s2.pending = s.pending ∧ (¬ s2.running < (par : Int) ∨ popQueued s2.pools = none)) := by
  have sp1 := startLoop_spec (g := g) (par := par) (c := c) e (g.nBuilds + 1)
    { s with trace := Ev.update (countsList s.counts) :: s.trace } false
  have sp2 := readyLoop_spec (g := g) (par := par) (c := c) (g.nBuilds + 1) s1 e perms false
  rw [h1] at sp1
  rw [h2] at sp2
  refine ⟨((Steps.one (.update s e)).trans sp1.1).trans sp2.1, sp2.2.1, fun hpp => ?_⟩
  have hp : p1 = false ∧ p2 = false := by cases p1 <;> cases p2 <;> simp at hpp ⊢
  obtain ⟨-, rfl, hq⟩ := sp1.2.resolve_left (by simp [hp.1])
  obtain ⟨-, rfl, -⟩ := sp2.2.2.resolve_left (by simp [hp.2])
  exact ⟨rfl, hq⟩

/-- **`Work::run` is a sequence of moves followed by one of the ways it stops.** -/
theorem runLoop_spec (fuel : Nat) (s : S) (e : E) (perms : List (List Nat)) (fin : List (Nat × Term)) :
    RunPost g par c s e (runLoop g par c fuel s e perms fin) := by
  fun_induction runLoop g par c fuel s e perms fin with
  | case1 s e => exact ⟨s, e, .refl _ _, .fuel _ _⟩
  | case2 _ s e _ _ hp => exact ⟨s, e, .refl _ _, .done e hp⟩
  | case3 _ s e _ _ _ _ se r h1 =>
    have sp1 := startLoop_spec (g := g) (par := par) (c := c) e (g.nBuilds + 1)
      { s with trace := Ev.update (countsList s.counts) :: s.trace } false
    rw [h1] at sp1
    refine ⟨se, e, (Steps.one (.update s e)).trans sp1.1, ?_⟩
    rcases sp1.2 with rfl | hf
    · exact .fuel _ _
    · exact .fault _ _ hf
  | case4 _ s e perms _ _ _ s1 _ h1 _ _ _ h2 =>
    have sp1 := startLoop_spec (g := g) (par := par) (c := c) e (g.nBuilds + 1)
      { s with trace := Ev.update (countsList s.counts) :: s.trace } false
    have sp2 := readyLoop_spec (g := g) (par := par) (c := c) (g.nBuilds + 1) s1 e perms false
    rw [h1] at sp1
    rw [h2] at sp2
    exact RunPost.trans ((Steps.one (.update s e)).trans sp1.1) sp2
  -- from here on both inner loops left by their normal exit: `round_spec` applies to the two
  -- equations in the context
  | case5 => exact .trans (round_spec ‹_› ‹_›).1 ‹_›
  | case6 _ _ _ _ _ hp _ _ _ h1 _ e2 _ _ h2 hpp hrun hf =>
    obtain ⟨hs, hr, hq⟩ := round_spec h1 h2
    have := Ends.stalled (g := g) (par := par) (c := c) e2 (by rw [(hq hpp).1]; exact hp) hr (hq hpp).2 hrun
    rw [if_pos hf] at this
    exact ⟨_, _, hs, this⟩
  | case7 _ _ _ _ _ hp _ _ _ h1 _ e2 _ _ h2 hpp hrun hf =>
    obtain ⟨hs, hr, hq⟩ := round_spec h1 h2
    have := Ends.stalled (g := g) (par := par) (c := c) e2 (by rw [(hq hpp).1]; exact hp) hr (hq hpp).2 hrun
    rw [if_neg hf] at this
    exact ⟨_, _, hs, this⟩
  | case8 | case9 => exact ⟨_, _, (round_spec ‹_› ‹_›).1, .stuck _ _⟩
  | case10 => exact ⟨_, _, (round_spec ‹_› ‹_›).1, .overBudget _ (Classical.not_not.mp ‹_›) ‹_›⟩
  | case11 _ _ _ _ _ _ _ _ h1 _ _ _ _ h2 _ _ _ _ hst i hn0 hn1 _ hk =>
    have hi : i = 1 := by omega
    subst hi
    exact ⟨_, _, (round_spec h1 h2).1, .lastFailure _ (Classical.not_not.mp hst) hk⟩
  | case12 _ _ _ _ _ _ _ _ h1 _ _ _ _ h2 _ _ _ _ hst i hn0 hn1 _ _ hk hs ih =>
    exact .trans ((round_spec h1 h2).1.trans (.one (.failed _ (Classical.not_not.mp hst)
      (.inr ⟨i, hk, hn0, hn1, rfl⟩) (resToRun_inl hs)))) ih
  | case14 _ _ _ _ _ _ _ _ h1 _ _ _ _ h2 _ _ _ _ hst _ _ hk hs ih =>
    exact .trans ((round_spec h1 h2).1.trans (.one (.failed _ (Classical.not_not.mp hst)
      (.inl ⟨hk, rfl⟩) (resToRun_inl hs)))) ih
  | case13 | case15 =>
    obtain ⟨rfl, hf⟩ := resToRun_fault ‹_›
    exact ⟨_, _, (round_spec ‹_› ‹_›).1, .failFault _ (Classical.not_not.mp ‹_›) hf⟩
  | case16 => exact ⟨_, _, (round_spec ‹_› ‹_›).1, .interrupted _ (Classical.not_not.mp ‹_›)⟩
  | case17 _ _ _ _ _ _ _ _ h1 _ _ _ _ h2 _ _ _ _ hst _ _ _ hs ih =>
    exact .trans ((round_spec h1 h2).1.trans (.one (.succeeded _ _ (Classical.not_not.mp hst)
      (resToRun_inl hs)))) ih
  | case18 =>
    obtain ⟨rfl, hf⟩ := resToRun_fault ‹_›
    exact ⟨_, _, (round_spec ‹_› ‹_›).1, .succFault _ (Classical.not_not.mp ‹_›) hf⟩

/-- The state reported at a stop differs from the state reached only in bookkeeping: the popped
    head of the ready queue, a `set .. Queued` whose pool is missing, or the runner's count and
    the `finish` event of a command that will not be processed further. -/
theorem Ends.shape {s e s' e' r} (h : Ends g par c s e s' e' r) :
    s' = s ∨ (∃ id rest, s.ready = id :: rest ∧ s' = { s with ready := rest }) ∨
    (∃ id rest, s.ready = id :: rest ∧ set g { s with ready := rest } id .queued = .ok s') ∨
    (∃ id t k, s.st id = .running ∧ s' = { waited s id t with failuresLeft := k }) := by
  cases h with
  | done | fuel | fault | stalled | stuck => exact .inl rfl
  | checkErr hr | readyFault hr => exact .inr (.inl ⟨_, _, hr, rfl⟩)
  | noPool hr _ h => exact .inr (.inr (.inl ⟨_, _, hr, h⟩))
  | interrupted _ hst | overBudget _ hst | failFault _ hst | succFault _ hst =>
    exact .inr (.inr (.inr ⟨_, _, _, hst, rfl⟩))
  | lastFailure _ hst => exact .inr (.inr (.inr ⟨_, _, _, hst, rfl⟩))

/-- Success is reported only at the head of the loop, with nothing pending and nothing failed. -/
theorem Ends.ok_true {s e s' e'} (h : Ends g par c s e s' e' (.ok true)) :
    s' = s ∧ e' = e ∧ s.pending ≤ 0 ∧ s.tasksFailed = 0 := by
  generalize hr : RunResult.ok true = r at h
  cases h with
  | done _ hp => exact ⟨rfl, rfl, hp, by simpa using hr.symm⟩
  | fault _ hf => exact absurd hr.symm (hf.ne_ok _)
  | readyFault _ _ hf | failFault _ _ hf | succFault _ _ hf => exact absurd hr.symm (hf.ne_ok _)
  | stalled => split at hr <;> cases hr
  | _ => cases hr

/-- A stop with an ordinary result (success, or a command failed / the budget ran out / an
    interruption) reports the environment reached and changes no build's state. -/
theorem Ends.ok {s e s' e'} {b : Bool} (h : Ends g par c s e s' e' (.ok b)) : e' = e ∧ s'.st = s.st := by
  generalize hr : RunResult.ok b = r at h
  cases h with
  | done | stalled | interrupted | lastFailure => exact ⟨rfl, rfl⟩
  | fault _ hf => exact absurd hr.symm (hf.ne_ok _)
  | readyFault _ _ hf | failFault _ _ hf | succFault _ _ hf => exact absurd hr.symm (hf.ne_ok _)
  | _ => cases hr

/-- The `BUG` outcome is reported only when nothing is ready, nothing can start, nothing runs,
    nothing has failed, and yet something is pending. -/
theorem Ends.bug {s e s' e'} (h : Ends g par c s e s' e' .bug) :
    s' = s ∧ e' = e ∧ ¬ s.pending ≤ 0 ∧ s.ready = [] ∧
    (¬ s.running < (par : Int) ∨ popQueued s.pools = none) ∧ s.running ≤ 0 ∧ s.tasksFailed = 0 := by
  generalize hr : RunResult.bug = r at h
  cases h with
  | fault _ hf => exact absurd hr.symm hf.ne_bug
  | readyFault _ _ hf | failFault _ _ hf | succFault _ _ hf => exact absurd hr.symm hf.ne_bug
  | stalled _ hp hrd hq hrun =>
    split at hr
    · cases hr
    · exact ⟨rfl, rfl, hp, hrd, hq, hrun, by omega⟩
  | _ => cases hr

/-- On its error exit the state is the one before the failing `set`.  (`startLoop` consults no
    choice and no environment: any will do to speak of its moves.) -/
theorem startLoop_inr_inv {g : Graph} {par : Nat} (fuel : Nat) (s : S) (p : Bool) (inv : Inv g par s)
    (se : S) (r : RunResult) (h : startLoop g par fuel s p = .inr (se, r)) : Inv g par se := by
  have := startLoop_spec (g := g) (par := par)
    (c := (⟨fun e _ => (none, e), fun e _ => e, fun e _ => e, false, [], []⟩ : Choices Unit)) () fuel s p
  rw [h] at this
  exact this.1.inv inv

/-- **`Work::run` returns success only in a state that satisfies the whole invariant.** -/
theorem runLoop_inv (c : Choices E) (fuel : Nat) (s : S) (e : E)
    (perms : List (List Nat)) (fin : List (Nat × Term)) (inv : Inv g par s)
    (h : (runLoop g par c fuel s e perms fin).result = .ok true) :
    Inv g par (runLoop g par c fuel s e perms fin).s := by
  obtain ⟨s', e', hs, he⟩ := runLoop_spec (g := g) (par := par) (c := c) fuel s e perms fin
  rw [h] at he
  rw [he.ok_true.1]; exact hs.inv inv

/-- A run consumes a completion only in a configuration where the command it names is running. -/
theorem runLoop_finishes (fuel : Nat) (s : S) (e : E) (perms : List (List Nat)) (fin : List (Nat × Term)) :
    (runLoop g par c fuel s e perms fin).finishes = fin ∨
    ∃ s' e' id, Steps g par c s e s' e' ∧ s'.st id = .running := by
  fun_induction runLoop g par c fuel s e perms fin
  -- a branch returns the list it was given, or has taken a completion (the command it names was
  -- running), or goes round again with the same list after progress
  all_goals first
    | exact .inl rfl
    | exact .inr ⟨_, _, _, (round_spec ‹_› ‹_›).1, Classical.not_not.mp ‹_›⟩
    | (rename_i ih
       exact ih.imp id fun ⟨s', e', id, h, hst⟩ => ⟨s', e', id, ((round_spec ‹_› ‹_›).1).trans h, hst⟩)

end N2V.Sched
