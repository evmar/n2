/-
  Facts that hold of every successful run of the statement parsers, whatever the input: the path
  readers only append to the list they are given, so the counts recorded for a `build` line
  partition its path lists.
-/
import N2V.Model.Parse
namespace N2V.Parse
open N2V N2V.Scanner N2V.Eval

theorem bind_ok {α β} (m : PM α) (f : α → PM β) (s s' : Scanner) (b : β)
    (h : (m >>= f) s = .ok b s') : ∃ a s1, m s = .ok a s1 ∧ f a s1 = .ok b s' := by
  simp only [bind, PM.bind] at h
  split at h
  · rename_i a s1 hm; exact ⟨a, s1, hm, h⟩
  · cases h
  · cases h

theorem pure_ok {α} (a b : α) (s s' : Scanner) (h : (pure a : PM α) s = .ok b s') : a = b ∧ s = s' := by
  simp only [pure, PM.pure] at h
  cases h; exact ⟨rfl, rfl⟩

def Post {α : Type} (Q : α → Prop) (m : PM α) : Prop := ∀ s a s', m s = .ok a s' → Q a

theorem Post.pure {α : Type} {Q : α → Prop} {a : α} (h : Q a) : Post Q (pure a) := fun _ _ _ hr =>
  (pure_ok _ _ _ _ hr).1 ▸ h

theorem Post.bind {α β : Type} {P : α → Prop} {Q : β → Prop} {m : PM α} {f : α → PM β} (hm : Post P m)
    (hf : ∀ a, P a → Post Q (f a)) : Post Q (m >>= f) := fun s _ _ hr =>
  let ⟨a, s1, h0, h1⟩ := bind_ok m f s _ _ hr
  hf a (hm s a s1 h0) s1 _ _ h1

theorem Post.seq {α β : Type} {Q : β → Prop} {m : PM α} {f : α → PM β} (hf : ∀ a, Post Q (f a)) : Post Q (m >>= f) :=
  Post.bind (P := fun _ => True) (fun _ _ _ _ => trivial) fun a _ => hf a

theorem Post.ite {α : Type} {Q : α → Prop} {c : Prop} [Decidable c] {t e : PM α} (ht : Post Q t) (he : Post Q e) :
    Post Q (if c then t else e) := by
  split
  · exact ht
  · exact he

abbrev Extends (acc : List EvalStr) (m : PM (List EvalStr)) : Prop := Post (fun r => ∃ ext, r = acc ++ ext) m

theorem Extends.pure (acc : List EvalStr) : Extends acc (pure acc) := Post.pure ⟨[], (List.append_nil acc).symm⟩

theorem Extends.of_append {acc x : List EvalStr} {m : PM (List EvalStr)} (h : Extends (acc ++ x) m) : Extends acc m :=
  fun s r s' hr => let ⟨ext, e⟩ := h s r s' hr; ⟨x ++ ext, by rw [e, List.append_assoc]⟩

theorem pathsLoop_ext (fuel : Nat) : ∀ acc, Extends acc (pathsLoop fuel acc) := by
  induction fuel with
  | zero => intro acc s r s' h; cases h
  | succ fuel ih =>
    intro acc
    unfold pathsLoop
    exact Post.seq fun _ => Post.ite (Extends.pure acc) (Post.seq fun e => Post.seq fun _ => (ih (acc ++ [e])).of_append)

theorem readPathsTo_ext (acc : List EvalStr) : Extends acc (readPathsTo acc) :=
  Post.seq fun _ => Post.seq fun _ => pathsLoop_ext _ acc

theorem optImplicitOuts_ext (acc : List EvalStr) : Extends acc (optImplicitOuts acc) :=
  Post.seq fun _ => Post.ite (Post.seq fun _ => readPathsTo_ext acc) (Extends.pure acc)

theorem optImplicit_ext (acc : List EvalStr) : Extends acc (optImplicit acc) :=
  Post.seq fun _ => Post.ite
    (Post.seq fun _ => Post.seq fun _ => Post.ite (Post.seq fun _ => Extends.pure acc) (readPathsTo_ext acc))
    (Extends.pure acc)

theorem optOrderOnly_ext (acc : List EvalStr) : Extends acc (optOrderOnly acc) :=
  Post.seq fun _ => Post.ite
    (Post.seq fun _ => Post.seq fun _ =>
      Post.ite (Post.seq fun _ => Extends.pure acc) (Post.seq fun _ => readPathsTo_ext acc))
    (Extends.pure acc)

theorem optValidation_ext (acc : List EvalStr) : Extends acc (optValidation acc) :=
  Post.seq fun _ => Post.ite (Post.seq fun _ => Post.seq fun _ => readPathsTo_ext acc) (Extends.pure acc)

theorem readBuild_post : Post (fun st => ∃ b, st = .build b ∧
      b.explicitIns + b.implicitIns + b.orderOnlyIns + b.validationIns = b.ins.length ∧
      b.explicitOuts ≤ b.outs.length) readBuild :=
  Post.seq fun _ => Post.seq fun outs0 => Post.bind (optImplicitOuts_ext outs0) fun _ ⟨x0, e0⟩ =>
  Post.seq fun _ => Post.seq fun _ => Post.seq fun _ => Post.seq fun ins0 =>
  Post.bind (optImplicit_ext ins0) fun ins1 ⟨x1, e1⟩ => Post.bind (optOrderOnly_ext ins1) fun ins2 ⟨x2, e2⟩ =>
  Post.bind (optValidation_ext ins2) fun _ ⟨x3, e3⟩ => Post.seq fun _ => Post.seq fun _ =>
  Post.pure ⟨_, rfl, by simp only [e3, e2, e1, List.length_append]; omega, by simp only [e0, List.length_append]; omega⟩

end N2V.Parse
