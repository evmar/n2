/-
  Every trace the scheduler model produces satisfies the trace specification (TraceSpec.lean):
  each event is justified by the history before it.  `TInv` is the link between the ghost trace
  and the state; it is carried along every step next to `Inv`.
-/
import N2V.Lemmas.TraceFacts
import N2V.Lemmas.SchedSteps
namespace N2V.Sched

structure TInv (g : Graph) (par : Nat) (shape : List (Bytes × Nat)) (s : S) : Prop where
  st : stOf s.trace = s.st
  ok : okTrace g par shape s.trace = true
  shape : poolShape s.pools = shape

theorem TInv.of_same {g : Graph} {par : Nat} {shape : List (Bytes × Nat)} {s s' : S}
    (ti : TInv g par shape s) (h1 : s'.st = s.st) (h2 : s'.trace = s.trace)
    (h3 : poolShape s'.pools = poolShape s.pools) : TInv g par shape s' :=
  ⟨by rw [h2, h1]; exact ti.st, by rw [h2]; exact ti.ok, by rw [h3]; exact ti.shape⟩

theorem set_shape {g : Graph} {s s' : S} {id : Nat} {new : St} (h : set g s id new = .ok s') :
    poolShape s'.pools = poolShape s.pools := by
  obtain ⟨ps1, h1, h2⟩ := set_modPool h
  have e1 : poolShape ps1 = poolShape s.pools := by
    split at h1
    · exact modPool_map_eq _ h1 fun _ => rfl
    · cases h1; rfl
  have e2 : poolShape s'.pools = poolShape ps1 := by
    split at h2
    · exact modPool_map_eq _ h2 fun _ => rfl
    · rw [← Option.some.inj h2]
  rw [e2, e1]

/-- The facts about a state that justify the events emitted on entering it. -/
structure Exact (g : Graph) (s : S) : Prop where
  counts : ∀ x, x ≠ .unknown →
    s.counts.get x = cnt g.nBuilds (fun b => s.st b == x && !(g.build b).phony)
  pending : s.pending = cnt g.nBuilds (fun b => active (s.st b))
  ordered : ∀ b, gated (s.st b) →
    ∀ f ∈ (g.build b).ordering, ∀ p, g.producer f = some p → s.st p = .done

theorem InvCore.exact {g : Graph} {s : S} (c : InvCore g s) : Exact g s := ⟨c.counts, c.pending, c.ordered⟩

theorem Exact.of_same {g : Graph} {s s' : S} (h : Exact g s) (h1 : s'.st = s.st) (h2 : s'.counts = s.counts)
    (h3 : s'.pending = s.pending) : Exact g s' :=
  ⟨by rw [h1, h2]; exact h.counts, by rw [h1, h3]; exact h.pending, by rw [h1]; exact h.ordered⟩

theorem countsList_exact {g : Graph} {s : S} (core : Exact g s) :
    countsList s.counts = exactCounts g s.st := by
  simp [countsList, exactCounts, stateList, ← core.counts, Counts.get]

/-- One `set`: the event it emits is justified, given `Exact` of the state AFTER it. -/
theorem set_tinv {g : Graph} {par : Nat} {shape : List (Bytes × Nat)} {s s' : S} {id : Nat} {new : St}
    (ti : TInv g par shape s) (core' : Exact g s') (h : set g s id new = .ok s')
    (hid : id < g.nBuilds) (hlegal : legal (s.st id) new = true)
    (hlim : new = .running → withinLimits g par shape s'.st = true) : TInv g par shape s' := by
  have hst := set_st h
  refine ⟨?_, ?_, (set_shape h).trans ti.shape⟩
  · rw [set_trace h]; simp only [stOf]; rw [ti.st, hst]
  · rw [set_trace h, okTrace_cons, okEv_set_iff, ti.st, ← hst]
    refine ⟨⟨hid, rfl, hlegal, countsList_exact core', core'.pending, fun hn => ?_, hlim⟩, ti.ok⟩
    -- a build becomes `Ready` only with its producers `Done`: they are in `s'`, and none of them is `id`
    refine directDone_iff.mpr fun f hf p hp => ?_
    have hd := core'.ordered id (by rw [set_st_self h, hn]; simp [gated]) f hf p hp
    by_cases e : p = id
    · rw [e, set_st_self h, hn] at hd; cases hd
    · rwa [set_st_ne h e] at hd

theorem update_tinv {g : Graph} {par : Nat} {shape : List (Bytes × Nat)} {s : S}
    (core : Exact g s) (ti : TInv g par shape s) :
    TInv g par shape { s with trace := Ev.update (countsList s.counts) :: s.trace } := by
  refine ⟨?_, ?_, ti.shape⟩
  · simp only [stOf]; exact ti.st
  · simp only [okTrace, okEv, Bool.and_eq_true, beq_iff_eq]
    exact ⟨by rw [ti.st]; exact countsList_exact core, ti.ok⟩

theorem finish_tinv {g : Graph} {par : Nat} {shape : List (Bytes × Nat)} {s : S} {id : Nat} (t : Term)
    (ti : TInv g par shape s) (hst : s.st id = .running) :
    TInv g par shape { s with running := s.running - 1, trace := Ev.finish id t :: s.trace } := by
  refine ⟨?_, ?_, ti.shape⟩
  · simp only [stOf]; exact ti.st
  · simp only [okTrace, okEv, Bool.and_eq_true, beq_iff_eq]
    exact ⟨by rw [ti.st]; exact hst, ti.ok⟩

theorem readyDependents_tinv {g : Graph} {par : Nat} {shape : List (Bytes × Nat)} {s0 s' : S} {id : Nat}
    {perm : List Nat} (ti : TInv g par shape s0) (hid : id < g.nBuilds)
    (hlegal : legal (s0.st id) .done = true)
    (first : ∀ {s1}, set g s0 id .done = .ok s1 → Inv g par s1)
    (h : readyDependents g s0 id perm = .ok s') : TInv g par shape s' :=
  (readyDependents_induct (P := TInv g par shape)
    (fun inv ti hd _ hs inv1 => set_tinv ti inv1.toInvCore.exact hs (inv.valid _ (by simp [hd]))
      (by rw [hd]; rfl) (by intro e; cases e))
    (fun hs => ⟨first hs, set_tinv ti (first hs).toInvCore.exact hs hid hlegal (by intro e; cases e)⟩) h).2

theorem queued_tinv {g : Graph} {par : Nat} {shape : List (Bytes × Nat)} {s s2 : S} {id : Nat} {rest : List Nat}
    (inv : Inv g par s) (ti : TInv g par shape s) (hr : s.ready = id :: rest)
    (hs : set g { s with ready := rest } id .queued = .ok s2) : TInv g par shape s2 := by
  obtain ⟨-, hst, hid, -⟩ := inv.pop_ready hr
  have ti0 : TInv g par shape { s with ready := rest } := ti.of_same rfl rfl rfl
  exact set_tinv ti0 (popped_set_inv inv hr (.inr rfl) hs).toInvCore.exact hs hid
    (by show legal (s.st id) .queued = true; rw [hst]; rfl) (by intro e; cases e)

theorem withinLimits_of {g : Graph} {par : Nat} {shape : List (Bytes × Nat)} {s : S} (inv : Inv g par s)
    (hshape : poolShape s.pools = shape) : withinLimits g par shape s.st = true := by
  refine withinLimits_iff.mpr ⟨?_, fun nd hnd => ?_⟩
  · have h1 := inv.running
    have h2 := inv.parBound
    omega
  · rw [← hshape] at hnd
    obtain ⟨x, hx, rfl⟩ := List.mem_map.mp hnd
    by_cases hd : x.depth = 0
    · exact .inl hd
    · have h1 := inv.poolRunning x hx
      have h2 := inv.depthBound x hx (by omega)
      exact .inr (by simp only []; omega)

/-- Starting a command: the `set .. Running` event and the `start` event. -/
theorem start_tinv {g : Graph} {par : Nat} {shape : List (Bytes × Nat)} {s s1 : S} {id : Nat} {pools : List Pool}
    (inv : Inv g par s) (ti : TInv g par shape s) (hlt : s.running < par)
    (hpop : popQueued s.pools = some (id, pools))
    (h : set g { s with pools := pools } id .running = .ok s1) :
    TInv g par shape { s1 with running := s1.running + 1, trace := Ev.start id :: s1.trace } := by
  have inv2 := start_inv inv hlt hpop h
  obtain ⟨p, q, hp, hq, -, hps⟩ := popQueued_spec _ _ _ inv.poolNames hpop
  obtain ⟨hstid, hpool⟩ := inv.queuedSt p hp id (by simp [hq])
  have ti0 : TInv g par shape { s with pools := pools } := ti.of_same rfl rfl (by
    rw [hps]
    unfold poolShape
    rw [List.map_map]
    exact List.map_congr_left fun x _ => by dsimp only [Function.comp_apply, popQ]; split <;> rfl)
  have hwl : withinLimits g par shape s1.st = true :=
    withinLimits_of (s := { s1 with running := s1.running + 1, trace := Ev.start id :: s1.trace }) inv2
      ((set_shape h).trans ti0.shape)
  have ti1 := set_tinv ti0 (inv2.toInvCore.exact.of_same rfl rfl rfl : Exact g s1) h (inv.valid id (by simp [hstid]))
    (by show legal (s.st id) .running = true; rw [hstid]; rfl) (fun _ => hwl)
  refine ⟨by simp only [stOf]; exact ti1.st, okTrace_cons.mpr ⟨okEv_start_iff.mpr ⟨?_, ?_, ?_, ?_⟩, ti1.ok⟩, ti1.shape⟩
  · refine ⟨countsList s1.counts, s1.pending, s.trace, (set_trace h).trans ?_⟩
    show Ev.set id (s.st id) _ _ _ :: _ = _
    rw [hstid]
  · rw [ti1.st]; exact hwl
  · refine ⟨(p.name, p.depth), ?_, hpool.symm⟩
    rw [← ti.shape]; exact List.mem_map.mpr ⟨p, hp, rfl⟩
  · rw [ti1.st]
    exact directDone_iff.mpr (inv2.ordered id (by show gated (s1.st id); rw [set_st_self h]; simp [gated]))

theorem clean_tinv {g : Graph} {par : Nat} {shape : List (Bytes × Nat)} {s s1 : S} {id : Nat} {rest perm : List Nat}
    (inv : Inv g par s) (ti : TInv g par shape s) (hr : s.ready = id :: rest)
    (h : readyDependents g { s with ready := rest } id perm = .ok s1) : TInv g par shape s1 := by
  obtain ⟨-, hst, hid, -⟩ := inv.pop_ready hr
  have ti0 : TInv g par shape { s with ready := rest } := ti.of_same rfl rfl rfl
  exact readyDependents_tinv ti0 hid
    (by show legal (s.st id) .done = true; rw [hst]; rfl) (popped_set_inv inv hr (.inl rfl)) h

theorem succeeded_tinv {g : Graph} {par : Nat} {shape : List (Bytes × Nat)} {s s1 : S} {id : Nat}
    {perm : List Nat} (s0 : S)
    (inv : Inv g par s) (ti0 : TInv g par shape s0) (hst : s.st id = .running)
    (hcore : s0.st = s.st ∧ s0.counts = s.counts ∧ s0.pending = s.pending ∧ s0.ready = s.ready ∧ s0.pools = s.pools)
    (hrun0 : s0.running = s.running - 1)
    (h : readyDependents g s0 id perm = .ok s1) : TInv g par shape s1 :=
  readyDependents_tinv ti0 (inv.valid id (by simp [hst])) (by rw [hcore.1, hst]; rfl)
    (finished_inv s0 inv hst hcore hrun0 (.inl rfl)) h

variable {E : Type} {g : Graph} {par : Nat} {shape : List (Bytes × Nat)} {c : Choices E}

/-- Every move of `Work::run` emits only events the trace specification allows. -/
theorem Step.tinv {s e s' e'} (h : Step g par c s e s' e') (inv : Inv g par s)
    (ti : TInv g par shape s) : TInv g par shape s' := by
  cases h with
  | update => exact update_tinv inv.toInvCore.exact ti
  | start _ hlt hpop h => exact start_tinv inv ti hlt hpop h
  | clean _ hr _ h => exact clean_tinv inv ti hr h
  | adopt _ hr _ _ h => exact clean_tinv inv ti hr h
  | enqueue hr _ _ h =>
    obtain ⟨s2, pools, hs, hm, rfl⟩ := enqueueRun_inl h
    exact (queued_tinv inv ti hr hs).of_same rfl rfl (modPool_map_eq _ hm fun _ => rfl)
  | @failed id k _ _ hst _ h =>
    have i1 := failed_inv _ inv hst (by exact ⟨rfl, rfl, rfl, rfl, rfl⟩) (by exact rfl) h
    have t0 : TInv g par shape
        { waited s id .failure with failuresLeft := k, tasksFailed := s.tasksFailed + 1 } :=
      (finish_tinv .failure ti hst).of_same rfl rfl rfl
    refine set_tinv t0 i1.toInvCore.exact h (inv.valid _ (by rw [hst]; simp)) ?_ (by intro e; cases e)
    show legal (s.st id) .failed = true
    rw [hst]; rfl
  | @succeeded id _ _ perm hst h =>
    have t0 : TInv g par shape { waited s id .success with tasksRun := s.tasksRun + 1 } :=
      (finish_tinv .success ti hst).of_same rfl rfl rfl
    exact succeeded_tinv _ inv t0 hst (by exact ⟨rfl, rfl, rfl, rfl, rfl⟩) (by exact rfl) h

theorem Steps.tinv {s e s' e'} (h : Steps g par c s e s' e') (inv : Inv g par s)
    (ti : TInv g par shape s) : TInv g par shape s' :=
  h.induct (P := fun s _ => TInv g par shape s) inv ti fun i t st => st.tinv i t

/-- ... and so does the bookkeeping done on the way out. -/
theorem Ends.tinv {s e s' e' r} (h : Ends g par c s e s' e' r) (inv : Inv g par s)
    (ti : TInv g par shape s) : TInv g par shape s' := by
  rcases h.shape with rfl | ⟨id, rest, _, rfl⟩ | ⟨id, rest, hr, h⟩ | ⟨id, t, k, hst, rfl⟩
  · exact ti
  · exact ti.of_same rfl rfl rfl
  · exact queued_tinv inv ti hr h
  · exact (finish_tinv t ti hst).of_same rfl rfl rfl

/-- **Every trace `Work::run` can produce satisfies the trace specification** — whatever the
    graph, `-j`, the environment's answers, the order in which commands finish and how, and
    whatever the outcome (success, failure, interruption, error, even running out of choices). -/
theorem runLoop_tinv (c : Choices E)
    (fuel : Nat) (s : S) (e : E) (perms : List (List Nat)) (fin : List (Nat × Term))
    (inv : Inv g par s) (ti : TInv g par shape s) :
    TInv g par shape (runLoop g par c fuel s e perms fin).s := by
  obtain ⟨s', e', hs, he⟩ := runLoop_spec (g := g) (par := par) (c := c) fuel s e perms fin
  exact he.tinv (hs.inv inv) (hs.tinv inv ti)

end N2V.Sched
