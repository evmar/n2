/-
  `canonicalize_path` computes the component-level specification: `canon s = render (denote s)`.
  The byte-level loop (two cursors, an offset stack) is simulated by the fold of `resolve1` over the
  tokens of the input (`toksAux`): `out` is the rendering of what has been read so far, and the
  stack holds the offsets at which its names start.  Conversely `denote` yields denotations in a
  normal form from whose rendering they can be read back, which gives idempotence and the rest.
-/
import N2V.Model.Canon
namespace N2V.Canon

abbrev Tok := Bytes × Option UInt8

def upsB (ups : List (Option UInt8)) : Bytes := ups.flatMap (fun sep => [dot, dot] ++ sep.toList)
def namesB (ns : List Tok) : Bytes := ns.flatMap (fun t => t.1 ++ t.2.toList)

/-- What `render` prints, before `finish`. -/
def body (d : Denot) : Bytes := d.root.toList ++ upsB d.ups ++ namesB d.names

theorem render_eq (d : Denot) : render d = finish (body d) := rfl

def isDots (b : Bytes) : Bool := b == [dot] || b == [dot, dot]

theorem isDots_eq_false {b : Bytes} : isDots b = false ↔ b ≠ [dot] ∧ b ≠ [dot, dot] := by
  simp [isDots]

theorem dot_not_sep : isSep dot = false := by decide

theorem go_nil (ic : Bool) (out : Bytes) (st : List Nat) : go [] ic out st = .ok (finish out) := by
  unfold go; rfl

theorem go_comp (c : UInt8) (r out : Bytes) (st : List Nat) :
    go (c :: r) true out st = go r (!isSep c) (out ++ [c]) st := by
  rw [go]; simp

theorem go_head (c : UInt8) (r out : Bytes) (st : List Nat) :
    go (c :: r) false out st =
      match classify c r with
      | .skip r' => go r' false out st
      | .stop => .ok (finish out)
      | .up sep r' => go r' false (dotdot out st sep).1 (dotdot out st sep).2
      | .comp => go r true (out ++ [c]) (out.length :: st) := by
  rw [go]
  simp only [Bool.false_eq_true, if_false]
  split <;> rename_i h <;> simp [h]

theorem classify_spec (c : UInt8) (r : Bytes) {a : Act} (h : classify c r = a) :
    match a with
    | .skip r' => (isSep c = true ∧ r' = r) ∨ (c = dot ∧ ∃ n, isSep n = true ∧ r = n :: r')
    | .stop => c = dot ∧ r = []
    | .up sep r' => c = dot ∧
        ((sep = none ∧ r' = [] ∧ r = [dot]) ∨ ∃ m, isSep m = true ∧ sep = some m ∧ r = dot :: m :: r')
    | .comp => isSep c = false ∧ isDots (c :: r.takeWhile (fun x => !isSep x)) = false := by
  unfold classify at h
  by_cases hc : isSep c = true
  · rw [if_pos hc] at h; subst h; exact Or.inl ⟨hc, rfl⟩
  rw [if_neg hc] at h
  have hc : isSep c = false := eq_false_of_ne_true hc
  by_cases hd : (c == dot) = true
  · rw [if_pos hd] at h
    have hd : c = dot := of_decide_eq_true hd
    cases r with
    | nil => subst h; exact ⟨hd, rfl⟩
    | cons n r2 =>
      dsimp only at h
      by_cases hn : isSep n = true
      · rw [if_pos hn] at h; subst h; exact Or.inr ⟨hd, n, hn, rfl⟩
      rw [if_neg hn] at h
      by_cases hnd : (n == dot) = true
      · rw [if_pos hnd] at h
        have hnd : n = dot := of_decide_eq_true hnd
        cases r2 with
        | nil => subst h; exact ⟨hd, Or.inl ⟨rfl, rfl, by rw [hnd]⟩⟩
        | cons m r3 =>
          dsimp only at h
          by_cases hm : isSep m = true
          · rw [if_pos hm] at h; subst h; exact ⟨hd, Or.inr ⟨m, hm, rfl, by rw [hnd]⟩⟩
          · rw [if_neg hm] at h; subst h; exact ⟨hc, by simp [isDots_eq_false, List.takeWhile, hn, hm]⟩
      · rw [if_neg hnd] at h; subst h
        have hnd : n ≠ dot := fun e => hnd (decide_eq_true e)
        exact ⟨hc, by simp [isDots_eq_false, List.takeWhile, hn, hnd]⟩
  · rw [if_neg hd] at h; subst h
    have hd : c ≠ dot := fun e => hd (decide_eq_true e)
    exact ⟨hc, by simp [isDots_eq_false, hd]⟩

theorem toksAux_nil (cur : Bytes) : toksAux [] cur = if cur.isEmpty then [] else [(cur, none)] := by
  unfold toksAux; rfl

theorem toksAux_sep {c : UInt8} (h : isSep c = true) (r cur : Bytes) :
    toksAux (c :: r) cur = if cur.isEmpty then toksAux r [] else (cur, some c) :: toksAux r [] := by
  rw [toksAux, if_pos h]

theorem toksAux_byte {c : UInt8} (h : isSep c = false) (r cur : Bytes) :
    toksAux (c :: r) cur = toksAux r (cur ++ [c]) := by
  rw [toksAux, if_neg (Bool.eq_false_iff.mp h)]

theorem dots_ne_dot : ([dot, dot] : Bytes) ≠ [dot] := by decide

theorem resolve1_dot (d : Denot) (sep : Option UInt8) : resolve1 d ([dot], sep) = d := if_pos rfl

theorem resolve1_up_nil (root : Option UInt8) (ups : List (Option UInt8)) (u : Option UInt8) :
    resolve1 ⟨root, ups, []⟩ ([dot, dot], u) = ⟨root, ups ++ [u], []⟩ := by
  rw [resolve1, if_neg dots_ne_dot, if_pos rfl]; rfl

theorem resolve1_up_concat (root : Option UInt8) (ups : List (Option UInt8)) (ns : List Tok) (t : Tok)
    (u : Option UInt8) : resolve1 ⟨root, ups, ns ++ [t]⟩ ([dot, dot], u) = ⟨root, ups, ns⟩ := by
  rw [resolve1, if_neg dots_ne_dot, if_pos rfl, if_neg (by simp)]
  simp [dropLast]

theorem resolve1_push {t : Tok} (h : isDots t.1 = false) (d : Denot) :
    resolve1 d t = { d with names := d.names ++ [t] } := by
  obtain ⟨h1, h2⟩ := isDots_eq_false.mp h
  rw [resolve1, if_neg h1, if_neg h2]

/-- The offsets at which the names `rn` (last name first) start in `pre ++ namesB rn.reverse`. -/
def offsR (pre : Bytes) : List Tok → List Nat
  | [] => []
  | _ :: rn => (pre ++ namesB rn.reverse).length :: offsR pre rn

/-- The component stack that goes with `out = body d`: the offset at which each name starts,
    the last name first. -/
def stack (d : Denot) : List Nat := offsR (d.root.toList ++ upsB d.ups) d.names.reverse

theorem body_push (d : Denot) (n : Bytes) (sep : Option UInt8) :
    body { d with names := d.names ++ [(n, sep)] } = body d ++ n ++ sep.toList := by
  simp [body, namesB, List.append_assoc]

theorem stack_push (d : Denot) (t : Tok) :
    stack { d with names := d.names ++ [t] } = (body d).length :: stack d := by
  simp [stack, offsR, body]

/-- `dotdot` is `resolve1` with a `..` component. -/
theorem dotdot_resolve1 (d : Denot) (sep : Option UInt8) :
    dotdot (body d) (stack d) sep =
      (body (resolve1 d ([dot, dot], sep)), stack (resolve1 d ([dot, dot], sep))) := by
  obtain ⟨root, ups, names⟩ := d
  rcases List.eq_nil_or_concat names with rfl | ⟨ns, t, rfl⟩
  · rw [resolve1_up_nil]
    simp [dotdot, stack, offsR, body, upsB, namesB, List.append_assoc]
  · rw [List.concat_eq_append, resolve1_up_concat,
      show (⟨root, ups, ns ++ [t]⟩ : Denot) = { (⟨root, ups, ns⟩ : Denot) with names := ns ++ [t] } from rfl,
      body_push, stack_push, List.append_assoc]
    simp [dotdot]

/-- How the state of `go` holds the denotation `d` of what has been read: at the head of the loop,
    or with the first bytes `cur` of a component (which is not `.` or `..`) copied. -/
inductive Sim (d : Denot) (rest : Bytes) : Bytes → Bool → Bytes → List Nat → Prop where
  | head {out st} : out = body d → st = stack d → Sim d rest [] false out st
  | comp {cur out st} : cur ≠ [] → isDots (cur ++ rest.takeWhile (fun x => !isSep x)) = false →
      out = body d ++ cur → st = (body d).length :: stack d → Sim d rest cur true out st

theorem Sim.of_head {d : Denot} {rest cur : Bytes} {ic : Bool} {out : Bytes} {st : List Nat}
    (hs : Sim d rest cur ic out st) (hn : ¬ic = true) : cur = [] ∧ out = body d ∧ st = stack d := by
  cases hs with
  | head ho hst => exact ⟨rfl, ho, hst⟩
  | comp => exact absurd rfl hn

/-- From a state that holds `d`, the loop returns the rendering of `d` resolved against the
    tokens still to come. -/
theorem go_sim (rest : Bytes) (ic : Bool) (out : Bytes) (st : List Nat) :
    ∀ (d : Denot) (cur : Bytes), Sim d rest cur ic out st →
      go rest ic out st = .ok (render ((toksAux rest cur).foldl resolve1 d)) := by
  fun_induction go rest ic out st
  case case1 ic out st =>
    intro d cur hs
    rw [toksAux_nil]
    cases hs with
    | head ho _ => rw [ho]; rfl
    | comp hne hd ho _ =>
      rw [List.takeWhile_nil, List.append_nil] at hd
      rw [if_neg fun h => hne (List.isEmpty_iff.mp h), List.foldl_cons, List.foldl_nil, resolve1_push hd, render_eq, body_push,
        ho]
      exact congrArg _ (congrArg _ (List.append_nil _).symm)
  case case2 out st c r ih =>
    intro d cur hs
    cases hs with
    | comp hne hd ho hst =>
      by_cases hsep : isSep c = true
      · -- the component ends here
        rw [List.takeWhile_cons, if_neg (by simp [hsep]), List.append_nil] at hd
        rw [toksAux_sep hsep, if_neg fun h => hne (List.isEmpty_iff.mp h), List.foldl_cons, resolve1_push hd]
        refine ih _ [] ?_
        rw [hsep]
        exact .head (by rw [body_push, ho]; rfl) (by rw [stack_push, hst])
      · have hsep : isSep c = false := eq_false_of_ne_true hsep
        rw [List.takeWhile_cons, if_pos (by simp [hsep]), List.append_cons] at hd
        rw [toksAux_byte hsep]
        refine ih d _ ?_
        rw [hsep]
        exact .comp (by simp) hd (by rw [ho, List.append_assoc]) hst
  case case3 ic out st c r hn r' hc ih =>
    intro d cur hs
    obtain ⟨rfl, ho, hst⟩ := hs.of_head hn
    have hfold : (toksAux (c :: r) []).foldl resolve1 d = (toksAux r' []).foldl resolve1 d := by
      obtain ⟨hsep, rfl⟩ | ⟨rfl, n, hn, rfl⟩ := classify_spec c r hc
      · rw [toksAux_sep hsep]; rfl
      · rw [toksAux_byte dot_not_sep, toksAux_sep hn]
        show List.foldl resolve1 (resolve1 d ([dot], some n)) (toksAux r' []) = _
        rw [resolve1_dot]
    rw [hfold]
    exact ih d [] (.head ho hst)
  case case4 ic out st c r hn hc =>
    intro d cur hs
    obtain ⟨rfl, ho, -⟩ := hs.of_head hn
    obtain ⟨rfl, rfl⟩ := classify_spec c r hc
    rw [ho]; rfl
  case case5 ic out st c r hn sep r' hc p ih =>
    intro d cur hs
    obtain ⟨rfl, rfl, rfl⟩ := hs.of_head hn
    have htoks : toksAux (c :: r) [] = ([dot, dot], sep) :: toksAux r' [] := by
      obtain ⟨rfl, ⟨rfl, rfl, rfl⟩ | ⟨m, hm, rfl, rfl⟩⟩ := classify_spec c r hc
      · rfl
      · rw [toksAux_byte dot_not_sep, toksAux_byte dot_not_sep, toksAux_sep hm]; rfl
    rw [htoks, List.foldl_cons]
    exact ih _ [] (.head (congrArg Prod.fst (dotdot_resolve1 d sep)) (congrArg Prod.snd (dotdot_resolve1 d sep)))
  case case6 ic out st c r hn hc ih =>
    intro d cur hs
    obtain ⟨rfl, ho, hst⟩ := hs.of_head hn
    obtain ⟨hsep, hd⟩ := classify_spec c r hc
    rw [toksAux_byte hsep]
    exact ih d [c] (.comp (List.cons_ne_nil _ _) hd (by rw [ho]) (by rw [ho, hst]))

def rootOf : Bytes → Option UInt8
  | [] => none
  | c :: _ => if isSep c then some c else none

theorem denote_eq (s : Bytes) : denote s = (toks s).foldl resolve1 ⟨rootOf s, [], []⟩ := by
  cases s with
  | nil => rfl
  | cons c r =>
    unfold denote rootOf toks
    dsimp only
    by_cases hs : isSep c = true
    · rw [if_pos hs, if_pos hs, toksAux_sep hs]; rfl
    · rw [if_neg hs, if_neg hs]

/-- **Functional correctness of `canonicalize_path`**: for every non-empty path, the result is
    the rendering of what the path denotes (its root, the `..` that cannot be resolved, and the
    remaining names with their separators). -/
theorem canon_spec (s : Bytes) (hne : s ≠ []) : canon s = .ok (render (denote s)) := by
  cases s with
  | nil => exact absurd rfl hne
  | cons c r =>
    rw [denote_eq]
    unfold canon rootOf toks
    dsimp only
    by_cases hs : isSep c = true
    · rw [if_pos hs, if_pos hs, toksAux_sep hs]
      exact go_sim r false [c] [] ⟨some c, [], []⟩ [] (.head rfl rfl)
    · rw [if_neg hs, if_neg hs]
      exact go_sim (c :: r) false [] [] ⟨none, [], []⟩ [] (.head rfl rfl)

def TokWF (t : Tok) : Prop :=
  t.1 ≠ [] ∧ (∀ b ∈ t.1, isSep b = false) ∧ (∀ c, t.2 = some c → isSep c = true)

/-- Only the last token may lack a separator. -/
def SepsOk (l : List Tok) : Prop := ∀ t ∈ l.dropLast, t.2.isSome

theorem SepsOk.cons {t : Tok} {l : List Tok} (ht : t.2.isSome) (hl : SepsOk l) : SepsOk (t :: l) := by
  cases l with
  | nil => exact List.forall_mem_nil _
  | cons t' l =>
    intro x hx
    rw [List.dropLast_cons_cons] at hx
    rcases List.mem_cons.mp hx with rfl | hx
    · exact ht
    · exact hl x hx

theorem toksAux_wf (rest cur : Bytes) (hcur : ∀ b ∈ cur, isSep b = false) :
    (∀ t ∈ toksAux rest cur, TokWF t) ∧ SepsOk (toksAux rest cur) := by
  induction rest generalizing cur with
  | nil =>
    rw [toksAux_nil]
    by_cases h : cur.isEmpty = true
    · rw [if_pos h]; exact ⟨List.forall_mem_nil _, List.forall_mem_nil _⟩
    · rw [if_neg h]
      refine ⟨fun t ht => ?_, List.forall_mem_nil _⟩
      rw [List.mem_singleton.mp ht]
      exact ⟨fun e => h (List.isEmpty_iff.mpr e), hcur, fun _ h => nomatch h⟩
  | cons c r ih =>
    by_cases hs : isSep c = true
    · rw [toksAux_sep hs]
      have ih0 := ih [] (List.forall_mem_nil _)
      by_cases h : cur.isEmpty = true
      · rw [if_pos h]; exact ih0
      · rw [if_neg h]
        refine ⟨fun t ht => ?_, .cons rfl ih0.2⟩
        rcases List.mem_cons.mp ht with rfl | ht
        · exact ⟨fun e => h (List.isEmpty_iff.mpr e), hcur, fun c' hc' => Option.some.inj hc' ▸ hs⟩
        · exact ih0.1 t ht
    · have hs := eq_false_of_ne_true hs
      rw [toksAux_byte hs]
      refine ih _ fun b hb => ?_
      rcases List.mem_append.mp hb with hb | hb
      · exact hcur b hb
      · rw [List.mem_singleton.mp hb]; exact hs

def upsToks (ups : List (Option UInt8)) : List Tok := ups.map (fun u => ([dot, dot], u))

/-- The tokens a denotation is rendered from. -/
def Denot.toks (d : Denot) : List Tok := upsToks d.ups ++ d.names

theorem body_eq (d : Denot) : body d = d.root.toList ++ namesB d.toks := by
  simp [body, Denot.toks, namesB, upsB, upsToks, List.flatMap_map, List.append_assoc]

/-- What `denote` yields and `render` can be read back from: the root and every separator kept
    is a separator byte, names are non-empty, separator-free and neither `.` nor `..`, and only the
    last token may lack its separator. -/
structure Denot.Normal (d : Denot) : Prop where
  root : ∀ c, d.root = some c → isSep c = true
  wf : ∀ t ∈ d.toks, TokWF t
  names : ∀ t ∈ d.names, isDots t.1 = false
  seps : SepsOk d.toks

/-- A token with its separator after tokens that all have theirs. -/
theorem Denot.Normal.concat {d d' : Denot} {y : Tok} (hd : d.Normal) (hall : ∀ x ∈ d.toks, x.2.isSome)
    (hroot : d'.root = d.root) (htoks : d'.toks = d.toks ++ [y]) (hy : TokWF y)
    (hnames : ∀ x ∈ d'.names, isDots x.1 = false) :
    d'.Normal ∧ (y.2.isSome → ∀ x ∈ d'.toks, x.2.isSome) := by
  have hmem : ∀ {p : Tok → Prop}, (∀ x ∈ d.toks, p x) → p y → ∀ x ∈ d'.toks, p x := by
    intro p h1 h2 x hx
    rw [htoks] at hx
    rcases List.mem_append.mp hx with hx | hx
    · exact h1 x hx
    · rw [List.mem_singleton.mp hx]; exact h2
  refine ⟨⟨hroot ▸ hd.root, hmem hd.wf hy, hnames, fun x hx => hall x ?_⟩, hmem hall⟩
  rwa [htoks, List.dropLast_concat] at hx

theorem resolve1_normal {d : Denot} {t : Tok} (hd : d.Normal) (hall : ∀ x ∈ d.toks, x.2.isSome)
    (ht : TokWF t) :
    (resolve1 d t).Normal ∧ (t.2.isSome → ∀ x ∈ (resolve1 d t).toks, x.2.isSome) := by
  obtain ⟨n, sep⟩ := t
  by_cases h1 : n = [dot]
  · rw [h1, resolve1_dot]; exact ⟨hd, fun _ => hall⟩
  by_cases h2 : n = [dot, dot]
  · obtain ⟨root, ups, names⟩ := d
    rw [h2] at ht ⊢
    rcases List.eq_nil_or_concat names with rfl | ⟨ns, x, rfl⟩
    · rw [resolve1_up_nil]
      exact hd.concat hall rfl (by simp [Denot.toks, upsToks]) ht (List.forall_mem_nil _)
    · rw [List.concat_eq_append] at hd hall ⊢
      rw [resolve1_up_concat]
      have e : Denot.toks ⟨root, ups, ns ++ [x]⟩ = Denot.toks ⟨root, ups, ns⟩ ++ [x] :=
        (List.append_assoc ..).symm
      have hsub : ∀ y ∈ Denot.toks ⟨root, ups, ns⟩, y ∈ Denot.toks ⟨root, ups, ns ++ [x]⟩ := fun y hy =>
        e ▸ List.mem_append_left [x] hy
      have hall' := fun y hy => hall y (hsub y hy)
      exact ⟨⟨hd.root, fun y hy => hd.wf y (hsub y hy), fun y hy => hd.names y (List.mem_append_left _ hy),
        fun y hy => hall' y (List.dropLast_subset _ hy)⟩, fun _ => hall'⟩
  · have hnd := isDots_eq_false.mpr ⟨h1, h2⟩
    rw [resolve1_push hnd]
    refine hd.concat hall rfl (List.append_assoc ..).symm ht fun x hx => ?_
    rcases List.mem_append.mp hx with hx | hx
    · exact hd.names x hx
    · rw [List.mem_singleton.mp hx]; exact hnd

theorem foldl_normal (ts : List Tok) (d : Denot) (hd : d.Normal) (hall : ∀ x ∈ d.toks, x.2.isSome)
    (hwf : ∀ t ∈ ts, TokWF t) (hs : SepsOk ts) : (ts.foldl resolve1 d).Normal := by
  induction ts generalizing d with
  | nil => exact hd
  | cons t ts ih =>
    obtain ⟨hn, hall'⟩ := resolve1_normal hd hall (hwf t (List.mem_cons_self ..))
    cases ts with
    | nil => exact hn
    | cons t' ts =>
      exact ih _ hn (hall' (hs t (List.mem_cons_self ..))) (fun x hx => hwf x (List.mem_cons_of_mem _ hx))
        fun x hx => hs x (List.mem_cons_of_mem _ hx)

theorem denote_normal (s : Bytes) : (denote s).Normal := by
  rw [denote_eq]
  obtain ⟨hwf, hs⟩ := toksAux_wf s [] (List.forall_mem_nil _)
  refine foldl_normal _ _ ⟨fun c hc => ?_, List.forall_mem_nil _, List.forall_mem_nil _, List.forall_mem_nil _⟩
    (List.forall_mem_nil _) hwf hs
  cases s with
  | nil => cases hc
  | cons b r =>
    by_cases hb : isSep b = true
    · rw [rootOf, if_pos hb] at hc; cases hc; exact hb
    · rw [rootOf, if_neg hb] at hc; cases hc

theorem toksAux_name (name rest cur : Bytes) (h : ∀ b ∈ name, isSep b = false) :
    toksAux (name ++ rest) cur = toksAux rest (cur ++ name) := by
  induction name generalizing cur with
  | nil => rw [List.nil_append, List.append_nil]
  | cons b name ih =>
    rw [List.cons_append, toksAux_byte (h b (List.mem_cons_self ..)),
      ih _ fun x hx => h x (List.mem_cons_of_mem _ hx), List.append_assoc]
    rfl

theorem toksAux_namesB (ns : List Tok) (hwf : ∀ t ∈ ns, TokWF t) (hs : SepsOk ns) :
    toksAux (namesB ns) [] = ns := by
  induction ns with
  | nil => rfl
  | cons t ns ih =>
    obtain ⟨n, sep⟩ := t
    obtain ⟨hne, hn, hsep⟩ := hwf _ (List.mem_cons_self ..)
    have hemp : n.isEmpty = false := eq_false_of_ne_true fun e => hne (List.isEmpty_iff.mp e)
    rw [show namesB ((n, sep) :: ns) = n ++ (sep.toList ++ namesB ns) from List.append_assoc ..,
      toksAux_name _ _ _ hn, List.nil_append]
    cases sep with
    | some c =>
      rw [Option.toList_some, List.singleton_append, toksAux_sep (hsep c rfl), hemp,
        ih (fun x hx => hwf x (List.mem_cons_of_mem _ hx)) ?_]
      · rfl
      · cases ns with
        | nil => exact List.forall_mem_nil _
        | cons t' ns => exact fun x hx => hs x (List.mem_cons_of_mem _ hx)
    | none =>
      cases ns with
      | nil => rw [show namesB [] = [] from rfl, Option.toList_none, List.append_nil, toksAux_nil, hemp]; rfl
      | cons t' ns => cases hs _ (List.mem_cons_self ..)

theorem foldl_ups (root : Option UInt8) (ups acc : List (Option UInt8)) :
    (upsToks ups).foldl resolve1 ⟨root, acc, []⟩ = ⟨root, acc ++ ups, []⟩ := by
  induction ups generalizing acc with
  | nil => rw [List.append_nil]; rfl
  | cons u ups ih =>
    rw [upsToks, List.map_cons, List.foldl_cons, resolve1_up_nil, ← upsToks, ih, List.append_assoc]
    rfl

theorem foldl_names (root : Option UInt8) (ups : List (Option UInt8)) (ns acc : List Tok)
    (h : ∀ t ∈ ns, isDots t.1 = false) :
    ns.foldl resolve1 ⟨root, ups, acc⟩ = ⟨root, ups, acc ++ ns⟩ := by
  induction ns generalizing acc with
  | nil => rw [List.append_nil]; rfl
  | cons t ns ih =>
    rw [List.foldl_cons, resolve1_push (h t (List.mem_cons_self ..)),
      ih _ fun x hx => h x (List.mem_cons_of_mem _ hx), List.append_assoc]
    rfl

theorem denote_finish (out : Bytes) : denote (finish out) = denote out := by
  cases out with
  | nil => decide
  | cons _ _ => rfl

/-- **Reading a rendering back gives the same denotation**, for denotations in normal form. -/
theorem denote_render (d : Denot) (hd : d.Normal) : denote (render d) = d := by
  have htoks : toks (body d) = d.toks := by
    rw [body_eq]
    refine Eq.trans ?_ (toksAux_namesB _ hd.wf hd.seps)
    cases hr : d.root with
    | none => rfl
    | some c => exact toksAux_sep (hd.root c hr) _ _
  have hroot : rootOf (body d) = d.root := by
    rw [body_eq]
    cases hr : d.root with
    | some c => exact if_pos (hd.root c hr)
    | none =>
      cases ht : d.toks with
      | nil => rfl
      | cons t ts =>
        obtain ⟨hne, hn, -⟩ := hd.wf t (ht ▸ List.mem_cons_self ..)
        obtain ⟨n, sep⟩ := t
        cases n with
        | nil => exact absurd rfl hne
        | cons b n => exact if_neg (Bool.eq_false_iff.mp (hn b (List.mem_cons_self ..)))
  rw [render_eq, denote_finish, denote_eq, htoks, hroot, Denot.toks, List.foldl_append, foldl_ups,
    foldl_names _ _ _ _ hd.names]
  rfl

theorem denote_render_denote (s : Bytes) : denote (render (denote s)) = denote s :=
  denote_render _ (denote_normal s)

theorem canon_ok_iff {s t : Bytes} : canon s = .ok t ↔ s ≠ [] ∧ t = render (denote s) := by
  constructor
  · intro h
    have hne : s ≠ [] := fun e => by rw [e] at h; cases h
    rw [canon_spec s hne] at h
    exact ⟨hne, (Res.ok.inj h).symm⟩
  · rintro ⟨hne, rfl⟩
    exact canon_spec s hne

theorem render_ne_nil (d : Denot) : render d ≠ [] := by
  rw [render_eq, finish]; split <;> simp_all

theorem denote_canon (s t : Bytes) (h : canon s = .ok t) : denote t = denote s := by
  rw [(canon_ok_iff.mp h).2]
  exact denote_render_denote s

theorem canon_idem (s t : Bytes) (h : canon s = .ok t) : canon t = .ok t := by
  obtain ⟨-, rfl⟩ := canon_ok_iff.mp h
  rw [canon_spec _ (render_ne_nil _), denote_render_denote]

theorem canon_eq_iff (s s' t t' : Bytes) (h : canon s = .ok t) (h' : canon s' = .ok t') :
    t = t' ↔ denote s = denote s' := by
  rw [← denote_canon s t h, ← denote_canon s' t' h']
  obtain ⟨-, rfl⟩ := canon_ok_iff.mp h
  obtain ⟨-, rfl⟩ := canon_ok_iff.mp h'
  constructor
  · exact congrArg denote
  · rw [denote_render_denote, denote_render_denote]
    exact congrArg render

/-- What remains in a canonical form: no `.` or `..` names, no empty names, no separator inside
    a name, every `..` kept is a leading one. -/
theorem canon_normal (s t : Bytes) (h : canon s = .ok t) :
    render (denote t) = t ∧
    ∀ n ∈ (denote t).names, n.1 ≠ [] ∧ n.1 ≠ [dot] ∧ n.1 ≠ [dot, dot] ∧ ∀ b ∈ n.1, isSep b = false := by
  rw [denote_canon s t h]
  refine ⟨(canon_ok_iff.mp h).2.symm, fun n hn => ?_⟩
  obtain ⟨h1, h2⟩ := isDots_eq_false.mp ((denote_normal s).names n hn)
  obtain ⟨hne, hsep, -⟩ := (denote_normal s).wf n (List.mem_append_right _ hn)
  exact ⟨hne, h1, h2, hsep⟩

end N2V.Canon
