/-
  Which builds leave `Unknown`.  Only the requested closure is touched: the want phase marks a
  build only if a requested file needs it (through ordering or validation inputs), `Work::run`
  never draws in anything new, and nothing that was marked is ever un-marked.
-/
import N2V.Lemmas.SchedMoves
namespace N2V.Sched

/-- `Needs g f b`: bringing file `f` up to date involves build `b` — `b` produces `f`, or `b` is
    needed by an ordering or validation input of a build that is. -/
inductive Needs (g : Graph) : Nat → Nat → Prop where
  | direct {f b} : g.producer f = some b → Needs g f b
  | step {f b f' b'} : Needs g f b → f' ∈ (g.build b).ordering ++ (g.build b).validation →
      Needs g f' b' → Needs g f b'

def NeedsAny (g : Graph) (fs : List Nat) (b : Nat) : Prop := ∃ f ∈ fs, Needs g f b

theorem NeedsAny.mono {g : Graph} {fs fs' : List Nat} {b : Nat} (h : NeedsAny g fs b)
    (hs : ∀ f ∈ fs, f ∈ fs') : NeedsAny g fs' b :=
  let ⟨f, hf, hn⟩ := h; ⟨f, hs f hf, hn⟩

/-- What wanting build `id` involves: `id` itself and whatever its inputs need. -/
def NeedsIn (g : Graph) (id b : Nat) : Prop :=
  b = id ∨ NeedsAny g ((g.build id).ordering ++ (g.build id).validation) b

theorem NeedsIn.needs {g : Graph} {f id b : Nat} (hp : g.producer f = some id) : NeedsIn g id b → Needs g f b
  | .inl e => e ▸ .direct hp
  | .inr ⟨_, hf', hn⟩ => .step (.direct hp) hf' hn

/-- Between `s` and `s'` only builds in `W` have left `Unknown`. -/
def Touch (W : Nat → Prop) (s s' : S) : Prop := ∀ b, s'.st b ≠ .unknown → s.st b ≠ .unknown ∨ W b

theorem Touch.refl (W : Nat → Prop) (s : S) : Touch W s s := fun _ h => .inl h

theorem Touch.mono {W W' : Nat → Prop} {a b : S} (h : Touch W a b) (i : ∀ x, W x → W' x) : Touch W' a b :=
  fun x hx => (h x hx).imp_right (i x)

/-- Composition, with what each part may touch widened to `W`. -/
theorem Touch.comp {W1 W2 W : Nat → Prop} {a b c : S} (h1 : Touch W1 a b) (h2 : Touch W2 b c)
    (i1 : ∀ x, W1 x → W x) (i2 : ∀ x, W2 x → W x) : Touch W a c := fun x hx =>
  (h2 x hx).elim (fun h => (h1 x h).imp_right (i1 x)) (fun h => .inr (i2 x h))

theorem Touch.trans {W : Nat → Prop} {a b c : S} (h1 : Touch W a b) (h2 : Touch W b c) : Touch W a c :=
  h1.comp h2 (fun _ h => h) (fun _ h => h)

/-- No build has left `Unknown` between `s` and `s'`. -/
def Keeps (s s' : S) : Prop := ∀ b, s'.st b ≠ .unknown → s.st b ≠ .unknown

theorem Keeps.refl (s : S) : Keeps s s := fun _ h => h
theorem Keeps.trans {a b c : S} (h1 : Keeps a b) (h2 : Keeps b c) : Keeps a c := fun x h => h1 x (h2 x h)

theorem Keeps.touch {W : Nat → Prop} {s s' : S} (k : Keeps s s') : Touch W s s' := fun b hb => .inl (k b hb)

theorem Touch.keeps {W : Nat → Prop} {s s' : S} (t : Touch W s s') (h : ∀ b, W b → s.st b ≠ .unknown) :
    Keeps s s' := fun b hb => (t b hb).elim id (h b)

/-- No build has gone back to `Unknown` between `s` and `s'`. -/
def Mono (s s' : S) : Prop := ∀ b, s.st b ≠ .unknown → s'.st b ≠ .unknown

theorem Mono.refl (s : S) : Mono s s := fun _ h => h
theorem Mono.trans {a b c : S} (h1 : Mono a b) (h2 : Mono b c) : Mono a c := fun x h => h2 x (h1 x h)

theorem Mono.unknown {s s' : S} (h : Mono s s') {b : Nat} (hb : s'.st b = .unknown) : s.st b = .unknown :=
  Decidable.byContradiction fun hs => h b hs hb

section
variable {g : Graph} {s s' : S} {id : Nat} {new : St}

theorem set_touch (h : set g s id new = .ok s') : Touch (· = id) s s' := fun b hb => by
  by_cases e : b = id
  · exact .inr e
  · rw [set_st_ne h e] at hb; exact .inl hb

theorem set_keeps (h : set g s id new = .ok s') (hid : s.st id ≠ .unknown) : Keeps s s' :=
  (set_touch h).keeps fun _ e => e ▸ hid

theorem set_marked (hn : new ≠ .unknown) (h : set g s id new = .ok s') : s'.st id ≠ .unknown := by
  rw [set_st_self h]; exact hn

theorem set_mono (hn : new ≠ .unknown) (h : set g s id new = .ok s') : Mono s s' := fun b hb => by
  by_cases e : b = id
  · exact e ▸ set_marked hn h
  · rw [set_st_ne h e]; exact hb

end

/-- `want_build`: the ordering inputs are walked, the build is marked, the validation inputs are
    walked. -/
theorem Touch.build {g : Graph} {s s1 s2 s3 : S} {id : Nat} {new : St}
    (hi : Touch (NeedsAny g (g.build id).ordering) s s1) (hs : set g s1 id new = .ok s2)
    (hv : Touch (NeedsAny g (g.build id).validation) s2 s3) : Touch (NeedsIn g id) s s3 :=
  (hi.comp (set_touch hs) (fun _ h => .inr (h.mono (by simp +contextual))) (fun _ => .inl)).comp hv
    (fun _ h => h) (fun _ h => .inr (h.mono (by simp +contextual)))

theorem Touch.cons {g : Graph} {s s1 s2 : S} {f : Nat} {fs : List Nat} (hf : Touch (Needs g f) s s1)
    (hi : Touch (NeedsAny g fs) s1 s2) : Touch (NeedsAny g (f :: fs)) s s2 :=
  hf.comp hi (fun _ h => ⟨f, by simp, h⟩) (fun _ h => h.mono (by simp +contextual))

/-- A call of the want phase that succeeds marks only what its argument needs. -/
theorem want_touches (g : Graph) :
    WantOk g (fun s _ f _ s' => Touch (Needs g f) s s') (fun s _ id _ s' => Touch (NeedsIn g id) s s')
      (fun s _ fs _ _ s' => Touch (NeedsAny g fs) s s') where
  leaf := fun _ => Touch.refl _ _
  file := fun hp _ hb => hb.mono fun _ => NeedsIn.needs hp
  known := fun _ => Touch.refl _ _
  build := fun _ _ hi hs _ hv => hi.build hs hv
  nil := Touch.refl _ _
  cons := fun _ hf _ hi => hf.cons hi

/-- ... and so does one that stops with a dependency-cycle error. -/
theorem want_touches_err (g : Graph) :
    WantErr g (fun s _ f _ s' => Touch (Needs g f) s s') (fun s _ id _ s' => Touch (NeedsIn g id) s s')
      (fun s _ fs _ s' => Touch (NeedsAny g fs) s s') where
  cycle := fun _ => Touch.refl _ _
  file := fun hp hb => hb.mono fun _ => NeedsIn.needs hp
  ordering := fun _ hi => hi.mono fun _ h => .inr (h.mono (by simp +contextual))
  validation := fun _ e1 hs hv => ((want_touches g).of_ins e1).build hs hv
  head := fun hf => hf.mono fun _ h => ⟨_, by simp, h⟩
  tail := fun e1 hi => ((want_touches g).of_file e1).cons hi

theorem want_touch_ok {g : Graph} {s s' : S} {f : Nat} (h : want g s f = .ok () s') : Touch (Needs g f) s s' :=
  let ⟨_, t⟩ := (want_touches g).of_want h; t

theorem want_touch_err {g : Graph} {s s' : S} {f : Nat} {m : String} (h : want g s f = .err m s') :
    Touch (Needs g f) s s' :=
  (want_touches_err g).of_want h

/-- The producers of the files `fs` are marked. -/
def Marks (g : Graph) (s : S) (fs : List Nat) : Prop :=
  ∀ f ∈ fs, ∀ p, g.producer f = some p → s.st p ≠ .unknown

theorem ready_or_want_ne (rd : Bool) : (if rd then St.ready else St.want) ≠ .unknown := by cases rd <;> simp

/-- A call of the want phase that succeeds un-marks nothing ... -/
theorem want_monos (g : Graph) :
    WantOk g (fun s _ _ _ s' => Mono s s') (fun s _ _ _ s' => Mono s s') (fun s _ _ _ _ s' => Mono s s') :=
  want_rel_ok Mono.refl Mono.trans fun _ _ _ _ _ _ _ hn hs =>
    set_mono (by rcases hn with rfl | rfl <;> simp) hs

theorem want_mono {g : Graph} {s s' : S} {f : Nat} (h : want g s f = .ok () s') : Mono s s' :=
  have ⟨_, m⟩ := (want_monos g).of_want h; m

/-- ... and leaves the producers of its files (the build itself, for `want_build`) marked. -/
theorem want_marks (g : Graph) :
    WantOk g (fun _ _ f _ s' => ∀ p, g.producer f = some p → s'.st p ≠ .unknown)
      (fun _ _ id _ s' => s'.st id ≠ .unknown) (fun _ _ fs _ _ s' => Marks g s' fs) where
  leaf := fun hp _ hp' => nomatch hp.symm.trans hp'
  file := fun hp _ hb _ hp' => Option.some.inj (hp.symm.trans hp') ▸ hb
  known := fun hk => hk
  build := fun _ _ _ hs e2 _ => (want_monos g).of_ins e2 _ (set_marked (ready_or_want_ne _) hs)
  nil := nofun
  cons := fun _ hf e2 hi x hx => (List.mem_cons.mp hx).elim
    (fun e => e ▸ fun p hp => (want_monos g).of_ins e2 p (hf p hp)) (hi x)

theorem readyDependents_touch {g : Graph} {s s' : S} {id : Nat} {perm : List Nat}
    (h : readyDependents g s id perm = .ok s') : Touch (· = id) s s' := fun b hb => by
  rcases readyDependents_st h b with ⟨e, -⟩ | ⟨-, e, -⟩ | ⟨-, e⟩
  · exact .inr e
  · exact .inl (by simp [e])
  · exact .inl (e ▸ hb)

theorem readyDependents_keeps {g : Graph} {s s' : S} {id : Nat} {perm : List Nat} (hid : s.st id ≠ .unknown)
    (h : readyDependents g s id perm = .ok s') : Keeps s s' :=
  (readyDependents_touch h).keeps fun _ e => e ▸ hid

theorem readyDependents_mono {g : Graph} {s s' : S} {id : Nat} {perm : List Nat}
    (h : readyDependents g s id perm = .ok s') : Mono s s' := fun b hb => by
  rcases readyDependents_st h b with ⟨-, e⟩ | ⟨-, -, e⟩ | ⟨-, e⟩
  · simp [e]
  · simp [e]
  · exact e ▸ hb

section
variable {E : Type} {g : Graph} {par : Nat} {c : Choices E}

/-- Every `set` of a move is on a build that the invariant shows to be `Queued`, `Ready` or
    `Running` already. -/
theorem Step.keeps {s e s' e'} (h : Step g par c s e s' e') (inv : Inv g par s) : Keeps s s' := by
  have ready : ∀ {id rest}, s.ready = id :: rest → s.st id ≠ .unknown := fun hr => by
    rw [inv.readySt _ (by simp [hr])]; simp
  cases h with
  | update => exact Keeps.refl s
  | @start id _ _ _ _ hpop h =>
    exact fun b hb => set_keeps h (by show s.st id ≠ .unknown; rw [inv.popped_queued hpop]; simp) b hb
  | clean _ hr _ h | adopt _ hr _ _ h =>
    exact fun b hb => readyDependents_keeps (by exact ready hr) h b hb
  | enqueue hr _ _ h =>
    obtain ⟨s2, pools, hs, -, rfl⟩ := enqueueRun_inl h
    exact fun b hb => set_keeps hs (ready hr) b hb
  | @failed id _ _ _ hst _ h =>
    exact fun b hb => set_keeps h (by show s.st id ≠ .unknown; rw [hst]; simp) b hb
  | @succeeded id _ _ _ hst h =>
    exact fun b hb => readyDependents_keeps (by show s.st id ≠ .unknown; rw [hst]; simp) h b hb

/-- ... and to a state other than `Unknown`. -/
theorem Step.mono {s e s' e'} (h : Step g par c s e s' e') : Mono s s' := by
  cases h with
  | update => exact Mono.refl s
  | start _ _ _ h | failed _ _ _ h => exact fun b hb => set_mono (by decide) h b hb
  | clean _ _ _ h | adopt _ _ _ _ h | succeeded _ _ _ h => exact fun b hb => readyDependents_mono h b hb
  | enqueue _ _ _ h =>
    obtain ⟨s2, pools, hs, -, rfl⟩ := enqueueRun_inl h
    exact fun b hb => set_mono (by decide) hs b hb

theorem Steps.keeps {s e s' e'} (h : Steps g par c s e s' e') (inv : Inv g par s) : Keeps s s' :=
  h.rel Keeps.refl Keeps.trans inv fun i st => st.keeps i

theorem Steps.mono {s e s' e'} (h : Steps g par c s e s' e') : Mono s s' := by
  induction h with
  | refl => exact Mono.refl _
  | head st _ ih => exact st.mono.trans ih

theorem Ends.keeps {s e s' e' r} (h : Ends g par c s e s' e' r) (inv : Inv g par s) : Keeps s s' := by
  rcases h.shape with rfl | ⟨id, rest, _, rfl⟩ | ⟨id, rest, hr, h⟩ | ⟨id, t, k, _, rfl⟩
  · exact Keeps.refl _
  · exact fun _ h => h
  · exact fun b hb => set_keeps h (by show s.st id ≠ .unknown; rw [inv.readySt id (by simp [hr])]; simp) b hb
  · exact fun _ h => h

theorem Ends.mono {s e s' e' r} (h : Ends g par c s e s' e' r) : Mono s s' := by
  rcases h.shape with rfl | ⟨id, rest, _, rfl⟩ | ⟨id, rest, _, h⟩ | ⟨id, t, k, _, rfl⟩
  · exact Mono.refl _
  · exact fun _ h => h
  · exact fun b hb => set_mono (by decide) h b hb
  · exact fun _ h => h

end

/-- **`Work::run` never takes a build out of `Unknown`**: whatever it ends with, every build that
    is not `Unknown` afterwards was not `Unknown` before. -/
theorem runLoop_keeps {E : Type} {g : Graph} {par : Nat} (c : Choices E) (fuel : Nat) (s : S) (e : E)
    (perms : List (List Nat)) (fin : List (Nat × Term)) (inv : Inv g par s) :
    Keeps s (runLoop g par c fuel s e perms fin).s := by
  obtain ⟨s', e', hs, he⟩ := runLoop_spec (g := g) (par := par) (c := c) fuel s e perms fin
  exact (hs.keeps inv).trans (he.keeps (hs.inv inv))

/-- ... and never puts one back. -/
theorem runLoop_mono {E : Type} {g : Graph} {par : Nat} (c : Choices E) (fuel : Nat) : ∀ (s : S) (e : E)
    (perms : List (List Nat)) (fin : List (Nat × Term)), Mono s (runLoop g par c fuel s e perms fin).s := by
  intro s e perms fin
  obtain ⟨s', e', hs, he⟩ := runLoop_spec (g := g) (par := par) (c := c) fuel s e perms fin
  exact hs.mono.trans he.mono

def stOfRes (s0 : S) : Sum S (S × RunResult) → S
  | .inl s1 => s1
  | .inr (se, _) => se

theorem resToRun_mono {s0 sa : S} {r : Res S} (hm : Mono sa s0) (hr : ∀ s1, r = .ok s1 → Mono sa s1) :
    Mono sa (stOfRes s0 (resToRun s0 r)) := by
  cases r <;> simp only [resToRun, stOfRes]
  · exact hr _ rfl
  all_goals exact hm

end N2V.Sched

namespace N2V.Run
open N2V N2V.Sched
variable {E : Type} {g : Graph} {a : Args} {c : Choices E}

/-- The builds an invocation may consider at all (`build_only_requested`). -/
def Wanted (g : Graph) (a : Args) (b : Nat) : Prop := ∃ f, Requested g a f ∧ Needs g f b

/-- Whatever an invocation does, it marks only what the requested files need. -/
theorem Runs.touch (gok : GraphOK g) {tb : Nat} {s : S} {e : E} {r : S × E × Outcome}
    (h : Runs g a c tb s e r) (inv : Inv g a.par s) : Touch (Wanted g a) s r.1 := by
  obtain ⟨s', e', hm, hst⟩ := h
  have wt : ∀ {s s' f}, Requested g a f → Touch (Needs g f) s s' → Touch (Wanted g a) s s' :=
    fun hf t => t.mono fun _ hn => ⟨_, hf, hn⟩
  have t := hm.rel gok (Touch.refl _) Touch.trans inv (fun _ hf h => wt hf (want_touch_ok h))
    (fun i st => (st.keeps i).touch)
  have i' := hm.inv gok inv
  cases hst with
  | wantErr _ hf h => exact t.trans (wt hf (want_touch_err h))
  | unknown | panic => exact t
  | reload h | done h | other h => exact t.trans (h.keeps i').touch

/-- **Exactly the requested closure**: in any `run::build`, whatever happens, a build leaves
    `Unknown` (is considered at all, let alone run) only if some requested file — the manifest, a
    command-line name that resolves, else a `default`, else any file — needs it through explicit,
    implicit, order-only or validation inputs. -/
theorem build_only_requested {E : Type} {g : Graph} (gok : GraphOK g) (a : Args) (c : Choices E) (e : E) (b : Nat)
    (hb : (build g a c e).1.st b ≠ .unknown) : ∃ f, Requested g a f ∧ Needs g f b :=
  ((build_runs g a c e).touch gok (fresh_inv g a) b hb).resolve_left fun h => h rfl

end N2V.Run
