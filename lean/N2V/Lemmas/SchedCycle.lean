/-
  Soundness of the `dependency cycle: a -> b -> a` diagnostic: when the want phase reports one,
  the files it names really form a cycle of ordering edges (each is an explicit, implicit or
  order-only input of the step producing the one before it), closed on the first file.
-/
import N2V.Lemmas.SchedWantRec
namespace N2V.Sched

/-- `f'` is an ordering input of the step that produces `f`. -/
def link (g : Graph) (f f' : Nat) : Prop := ∃ b, g.producer f = some b ∧ f' ∈ (g.build b).ordering

def Linked (g : Graph) : List Nat → Prop
  | [] => True
  | [_] => True
  | a :: b :: r => link g a b ∧ Linked g (b :: r)

theorem Linked.tail {g : Graph} {a : Nat} {l : List Nat} (h : Linked g (a :: l)) : Linked g l := by
  cases l with
  | nil => trivial
  | cons b r => exact h.2

theorem Linked.drop {g : Graph} (l : List Nat) (i : Nat) (h : Linked g l) : Linked g (l.drop i) := by
  induction i generalizing l with
  | zero => simpa using h
  | succ i ih =>
    cases l with
    | nil => trivial
    | cons a r => simp only [List.drop_succ_cons]; exact ih r h.tail

theorem Linked.snoc {g : Graph} (l : List Nat) (x y : Nat) (h : Linked g (l ++ [x])) (hl : link g x y) :
    Linked g (l ++ [x] ++ [y]) := by
  induction l with
  | nil => exact ⟨hl, trivial⟩
  | cons a r ih =>
    cases r with
    | nil => exact ⟨h.1, hl, trivial⟩
    | cons b r' => exact ⟨h.1, ih h.2⟩

/-- What a cycle diagnostic must be: the message of a non-empty list of linked files that
    returns to its first element. -/
def CycleMsg (g : Graph) (m : String) : Prop :=
  ∃ (c : List Nat) (x : Nat), m = cycleMessage g c x ∧ c.head? = some x ∧ Linked g (c ++ [x])

theorem idxOf_drop_head (l : List Nat) (f : Nat) (i : Nat) (h : l.idxOf? f = some i) :
    (l.drop i).head? = some f := by
  induction l generalizing i with
  | nil => simp [List.idxOf?] at h
  | cons a r ih =>
    rw [List.idxOf?_cons] at h
    by_cases e : a = f
    · subst e; simp at h; subst h; simp
    · have : (a == f) = false := by simpa using e
      simp only [this, Bool.false_eq_true, if_false, Option.map_eq_some_iff] at h
      obtain ⟨j, hj, rfl⟩ := h
      simp only [List.drop_succ_cons]
      exact ih j hj

/-- A dependency-cycle error is reported only where the stack holds the file again; the stack is
    linked because each file pushed is an ordering input of the step producing the one below it. -/
theorem cycle_sound (g : Graph) :
    WantErr g (fun _ stack f m _ => Linked g (stack ++ [f]) → CycleMsg g m)
      (fun _ stack id m _ => (∀ f ∈ (g.build id).ordering, Linked g (stack ++ [f])) → CycleMsg g m)
      (fun _ stack fs m _ => (∀ f ∈ fs, Linked g (stack ++ [f])) → CycleMsg g m) where
  cycle := fun {_ stack f i} hi hl => by
    refine ⟨stack.drop i, f, rfl, idxOf_drop_head stack f i hi, ?_⟩
    have := Linked.drop (stack ++ [f]) i hl
    rwa [List.drop_append_of_le_length (Nat.le_of_lt (List.idxOf?_eq_some_iff.mp hi).1)] at this
  file := fun {_ stack f b _ _} hp hb hl => hb fun f' hf' => Linked.snoc stack f f' hl ⟨b, hp, hf'⟩
  ordering := fun _ hi => hi
  validation := fun _ _ _ hv _ => hv fun _ _ => trivial
  head := fun hf hl => hf (hl _ (by simp))
  tail := fun _ hi hl => hi fun f' hf' => hl f' (by simp [hf'])

/-- **The cycle diagnostic is sound**: if `Work::want_file` fails, its message is
    `dependency cycle: f0 -> f1 -> ... -> f0` for files where each is an ordering input of the
    step producing its predecessor — a real cycle of ordering edges.  Validation edges start a
    fresh stack, so a cycle closed only by a validation edge is never reported. -/
theorem want_cycle_sound (g : Graph) (s s' : S) (f : Nat) (m : String) (h : want g s f = .err m s') :
    CycleMsg g m :=
  (cycle_sound g).of_want h trivial

end N2V.Sched
