/-
  A small graph, two argument vectors and two behaviours of the environment: the concrete runs
  Props/* evaluate as non-vacuity witnesses.
-/
import N2V.Lemmas.SchedBuild
import N2V.Lemmas.TraceFacts
namespace N2V.Ex
open N2V N2V.Sched

/-- `build b: r` ; `build c: r b` (files: 0 = the manifest, 1 = b, 2 = c). -/
def g0 : Graph := Graph.mk 2 3
  (fun b => if b = 0 then ⟨[], [], [1], false, []⟩ else if b = 1 then ⟨[1], [], [2], false, []⟩ else ⟨[], [], [], true, []⟩)
  (fun f => if f = 1 then some 0 else if f = 2 then some 1 else none)
  (fun f => if f = 1 then [1] else [])
  (fun f => [97 + f.toUInt8])

theorem g0_ok : GraphOK g0 := by
  intro f p h
  unfold g0 at h ⊢
  simp only at h ⊢
  split at h
  · cases h; decide
  · split at h
    · cases h; decide
    · cases h

def a0 : Run.Args := Run.Args.mk 2 (some 1) false 0 [] [] [] none

/-- The same with `-k 0` (keep going without limit). -/
def a1 : Run.Args := Run.Args.mk 2 none false 0 [] [] [] none

/-- Everything dirty, both commands succeed. -/
def c0 : Choices Unit := Choices.mk (fun e _ => (some true, e)) (fun e _ => e) (fun e _ => e)
  false [[1], []] [(0, .success), (1, .success)]

/-- The first command fails. -/
def c1 : Choices Unit := Choices.mk (fun e _ => (some true, e)) (fun e _ => e) (fun e _ => e)
  false [] [(0, .failure)]

example : (Run.build g0 a0 c0 ()).2.2 = .done 2 := by decide
example : (Run.build g0 a0 c1 ()).2.2 = .failed := by decide

end N2V.Ex
