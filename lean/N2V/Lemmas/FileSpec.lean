/-
  File level (C10): a manifest written as a sequence of statements - bindings, `rule`, `pool`,
  `build`, `default`, with blank lines and comments anywhere between them - is read by the
  loader's statement loop into exactly those statements, in order: the loop's result is the fold of
  the statements' effects over the loader state.  An `include` / `subninja` line hands the named
  file's content (read through `fs`) to the parser for nested files.
-/
import N2V.Lemmas.StmtSpec
import N2V.Lemmas.LoadStep
namespace N2V.Load
open N2V N2V.Scanner N2V.Eval N2V.Parse
open N2V.Depfile (G)

/-- Blank lines and comments. -/
inductive Noise where
  | blank
  | comment (body : Bytes)

def Noise.bytes : Noise → Bytes → Bytes
  | .blank, x => NL :: x
  | .comment body, x => HASH :: (body ++ NL :: x)

def Noise.WF : Noise → Prop
  | .blank => True
  | .comment body => ∀ c ∈ body, c ≠ NUL ∧ c ≠ NL ∧ c ≠ CR

def noiseBytes (ns : List Noise) (x : Bytes) : Bytes := ns.foldr Noise.bytes x

/-- A statement as written. -/
inductive StmtText where
  | build (gs : List PGap) (b : BuildText)
  | binding (name : Bytes) (v : ValueText)
  | rule (gs : List PGap) (name : Bytes) (bs : List BindingText)
  | pool (gs : List PGap) (name : Bytes) (bs : List BindingText) (depth : Nat)
  | default (gs : List PGap) (ps : List (PathText × List PGap))
  | incl (sub : Bool) (gs : List PGap) (t : PathText)

def StmtText.bytes : StmtText → Bytes → Bytes
  | .build gs b, after => kwBuild ++ (pgapBytes gs ++ b.bytes after)
  | .binding name v, after => name ++ (valueBytes v ++ after)
  | .rule gs name bs, after => kwRule ++ (pgapBytes gs ++ (name ++ NL :: (bindingsBytes bs ++ after)))
  | .pool gs name bs _, after => kwPool ++ (pgapBytes gs ++ (name ++ NL :: (bindingsBytes bs ++ after)))
  | .default gs ps, after => kwDefault ++ (pgapBytes gs ++ (pathsBytes ps ++ NL :: after))
  | .incl sub gs t, after => (if sub then kwSubninja else kwInclude) ++ (pgapBytes gs ++ (pathBytes t ++ after))

def bindingsMap (bs : List BindingText) : EvalMap := bs.foldl (fun m b => Eval.insert m b.name (valueOf b.rhs)) []

/-- Well-formedness of a written statement in front of `after` (what the byte-level theorems of
    Lemmas/StmtSpec ask for). -/
def StmtText.WF : StmtText → Bytes → Prop
  | .build gs b, after => gs ≠ [] ∧ BuildWF b after ∧ GapEnd (b.bytes after)
  | .binding name v, after => name ≠ [] ∧ (∀ c ∈ name, isIdentChar c true = true) ∧
      name ∉ [kwRule, kwBuild, kwDefault, kwInclude, kwSubninja, kwPool] ∧ ValueWF v after
  | .rule gs name bs, after => gs ≠ [] ∧ name ≠ [] ∧ (∀ c ∈ name, isIdentChar c true = true) ∧
      (∃ c0 r0, after = c0 :: r0 ∧ c0 ≠ SP) ∧ BindingsWF isRuleVar bs after
  | .pool gs name bs d, after => gs ≠ [] ∧ name ≠ [] ∧ (∀ c ∈ name, isIdentChar c true = true) ∧
      (∃ c0 r0, after = c0 :: r0 ∧ c0 ≠ SP) ∧ BindingsWF (fun n => n == bytesOfString "depth") bs after ∧
      poolDepth (bindingsMap bs) = some d
  | .default gs ps, after => gs ≠ [] ∧ ps ≠ [] ∧ PathsWF ps (NL :: after) ∧ GapEnd (pathsBytes ps ++ NL :: after)
  | .incl _ gs t, after => gs ≠ [] ∧ ∃ r, after = NL :: r ∧ SegsWF false t.1 (t.2 ++ NL :: r) ∧
      (∀ c ∈ t.2, plain false c) ∧ pathValue t ≠ [] ∧ GapEnd (pathBytes t ++ NL :: r)

/-- The item `Parser::read` produces for it (`ln`: the line number a `build` statement records). -/
def StmtText.item : StmtText → Nat → Item
  | .build _ b, ln => .stmt (.build
      { rule := b.rule, line := ln, outs := b.outsV, explicitOuts := (sectionValues b.eouts).length,
        ins := b.insV, explicitIns := (sectionValues b.eins).length, implicitIns := (optVals b.iins).length,
        orderOnlyIns := (optVals b.oins).length, validationIns := (optVals b.vins).length,
        vars := b.varsV })
  | .binding name v, _ => .binding name (valueOf v)
  | .rule _ name bs, _ => .stmt (.rule name (bindingsMap bs))
  | .pool _ name _ d, _ => .stmt (.pool name d)
  | .default _ ps, _ => .stmt (.default (ps.map (fun pg => pathValue pg.1)))
  | .incl sub _ t, _ => .stmt (if sub then .subninja (pathValue t) else .include (pathValue t))

theorem readItem_stmt (buf : Array UInt8) (st : StmtText) (after : Bytes) (hwf : st.WF after) (fuel : Nat)
    (s : Scanner) (g : G buf s) (hr : Rest buf s.ofs (st.bytes after)) :
    ∃ s' ln, readItem (fuel + 1) s = .ok (st.item ln) s' ∧ G buf s' ∧ Rest buf s'.ofs after := by
  cases st with
  | build gs b =>
    obtain ⟨h1, h2, h3⟩ := hwf
    exact readItem_build buf gs h1 b after h2 h3 fuel s g hr
  | binding name v =>
    obtain ⟨h1, h2, h3, h4⟩ := hwf
    obtain ⟨s', h⟩ := readItem_binding buf name h1 h2 h3 v after h4 fuel s g hr
    exact ⟨s', 0, h⟩
  | rule gs name bs =>
    obtain ⟨h1, h2, h3, ⟨c0, r0, h4, h5⟩, h6⟩ := hwf
    obtain ⟨s', h⟩ := readItem_rule buf gs h1 name h2 h3 bs after c0 r0 h4 h5 h6 fuel s g hr
    exact ⟨s', 0, h⟩
  | pool gs name bs d =>
    obtain ⟨h1, h2, h3, ⟨c0, r0, h4, h5⟩, h6, h7⟩ := hwf
    obtain ⟨s', h⟩ := readItem_pool buf gs h1 name h2 h3 bs after c0 r0 h4 h5 h6 d h7 fuel s g hr
    exact ⟨s', 0, h⟩
  | default gs ps =>
    obtain ⟨h1, h2, h3, h4⟩ := hwf
    obtain ⟨s', h⟩ := readItem_default buf gs h1 ps h2 after h3 h4 fuel s g hr
    exact ⟨s', 0, h⟩
  | incl sub gs t =>
    obtain ⟨h1, r, hafter, h2, h3, h4, h5⟩ := hwf
    subst hafter
    obtain ⟨s', h⟩ := readItem_include buf sub gs h1 t r h2 h3 h4 h5 fuel s g hr
    exact ⟨s', 0, h⟩

theorem StmtText.item_ne_eof (st : StmtText) (ln : Nat) : st.item ln ≠ .eof := by
  cases st <;> intro h <;> cases h

theorem StmtText.bytes_length (st : StmtText) (after : Bytes) : after.length < (st.bytes after).length := by
  have k1 : 0 < kwBuild.length := by decide
  have k2 : 0 < kwRule.length := by decide
  have k3 : 0 < kwPool.length := by decide
  have k4 : 0 < kwDefault.length := by decide
  cases st with
  | build gs b =>
    simp only [StmtText.bytes, BuildText.bytes, BuildText.tail0, BuildText.tail1, BuildText.tail2, BuildText.tail3,
      BuildText.tail4, BuildText.tail5, List.length_append, List.length_cons]
    omega
  | binding name v => simp only [StmtText.bytes, valueBytes, List.length_append, List.length_cons]; omega
  | rule gs name bs => simp only [StmtText.bytes, List.length_append, List.length_cons]; omega
  | pool gs name bs d => simp only [StmtText.bytes, List.length_append, List.length_cons]; omega
  | default gs ps => simp only [StmtText.bytes, List.length_append, List.length_cons]; omega
  | incl isSub gs t =>
    have k5 : 0 < (if isSub then kwSubninja else kwInclude).length := by cases isSub <;> decide
    simp only [StmtText.bytes, List.length_append]; omega

/-- Blank lines and comments in front of anything are skipped, one unit of fuel each. -/
theorem readItem_noise (buf : Array UInt8) (ns : List Noise) (hns : ∀ n ∈ ns, n.WF) (x : Bytes) :
    ∀ (fuel : Nat) (s : Scanner), G buf s → Rest buf s.ofs (noiseBytes ns x) →
    ∃ s1, G buf s1 ∧ Rest buf s1.ofs x ∧ readItem (fuel + ns.length) s = readItem fuel s1 := by
  induction ns with
  | nil => intro fuel s g hr; exact ⟨s, g, hr, rfl⟩
  | cons n ns ih =>
    intro fuel s g hr
    have hns' : ∀ n ∈ ns, n.WF := fun m hm => hns m (by simp [hm])
    have hfuel : fuel + (n :: ns).length = (fuel + ns.length) + 1 := by simp; omega
    rw [hfuel]
    cases n with
    | blank =>
      obtain ⟨s1, g1, hr1, he⟩ := readItem_blank buf (noiseBytes ns x) (fuel + ns.length) s g hr
      obtain ⟨s2, g2, hr2, he2⟩ := ih hns' fuel s1 g1 hr1
      exact ⟨s2, g2, hr2, he.trans he2⟩
    | comment body =>
      have hb : ∀ c ∈ body, c ≠ NUL ∧ c ≠ NL ∧ c ≠ CR := hns (.comment body) (by simp)
      obtain ⟨s1, g1, hr1, he⟩ := readItem_comment buf body (noiseBytes ns x) hb (fuel + ns.length) s g hr
      obtain ⟨s2, g2, hr2, he2⟩ := ih hns' fuel s1 g1 hr1
      exact ⟨s2, g2, hr2, he.trans he2⟩

theorem noiseBytes_length (ns : List Noise) (x : Bytes) : ns.length + x.length ≤ (noiseBytes ns x).length := by
  induction ns with
  | nil => simp [noiseBytes]
  | cons n ns ih =>
    have : noiseBytes (n :: ns) x = n.bytes (noiseBytes ns x) := rfl
    rw [this]
    cases n with
    | blank => simp [Noise.bytes]; omega
    | comment body => simp [Noise.bytes]; omega

/-- With the fuel the statement loop gives `readItem`, the noise in front of `x` is skipped with
    fuel to spare. -/
theorem readItem_noise_size (buf : Array UInt8) (ns : List Noise) (hns : ∀ n ∈ ns, n.WF) (x : Bytes)
    (s : Scanner) (g : G buf s) (hr : Rest buf s.ofs (noiseBytes ns x)) :
    ∃ s1 k, G buf s1 ∧ Rest buf s1.ofs x ∧ readItem (s.buf.size + 1) s = readItem (k + 1) s1 := by
  obtain ⟨s1, g1, hr1, he⟩ := readItem_noise buf ns hns x (s.buf.size - ns.length + 1) s g hr
  refine ⟨s1, s.buf.size - ns.length, g1, hr1, ?_⟩
  rw [← he]
  congr 1
  have := noiseBytes_length ns x
  have := hr.length
  rw [g.w.hb]
  omega

def applyItems (inclExtends : Bool) (fs : Fs) (depth : Nat)
    (sub : Loader → Bytes → Bytes → StrMap → Nat → Except LoadErr (Loader × StrMap))
    (file : Bytes) : List Item → Loader → StrMap → Except LoadErr (Loader × StrMap)
  | [], l, vars => .ok ({ l with builddir := Eval.lookup vars (bytesOfString "builddir") }, vars)
  | it :: rest, l, vars =>
    match applyItem inclExtends fs depth sub file l vars it with
    | .error e => .error e
    | .ok (l', vars') => applyItems inclExtends fs depth sub file rest l' vars'

abbrev FSeg := List Noise × StmtText

def fileBytes : List FSeg → Bytes → Bytes
  | [], tail => tail
  | (ns, st) :: rest, tail => noiseBytes ns (st.bytes (fileBytes rest tail))

def FileWF : List FSeg → Bytes → Prop
  | [], _ => True
  | (ns, st) :: rest, tail => (∀ n ∈ ns, n.WF) ∧ st.WF (fileBytes rest tail) ∧ FileWF rest tail

/-- **The file is read as written.**  For a buffer whose unread part is the written statements
    (each preceded by any blank lines and comments) followed by trailing blank lines / comments
    and the NUL sentinel, the loader's statement loop returns exactly the fold of the statements'
    effects, in order - for any loader state and scope it starts from. -/
theorem stmtLoop_file (inclExtends : Bool) (fs : Fs) (file : Bytes) (depth : Nat)
    (sub : Loader → Bytes → Bytes → StrMap → Nat → Except LoadErr (Loader × StrMap))
    (buf : Array UInt8) (tailNoise : List Noise) (htn : ∀ n ∈ tailNoise, n.WF) :
    ∀ (segs : List FSeg) (fuel : Nat) (l : Loader) (sc : Scanner) (vars : StrMap),
    FileWF segs (noiseBytes tailNoise [NUL]) → G buf sc →
    Rest buf sc.ofs (fileBytes segs (noiseBytes tailNoise [NUL])) → segs.length < fuel →
    ∃ lns : List Nat, lns.length = segs.length ∧
      stmtLoop inclExtends fs file depth sub fuel l sc vars =
        applyItems inclExtends fs depth sub file (List.zipWith (fun (sg : FSeg) ln => sg.2.item ln) segs lns) l vars := by
  intro segs
  induction segs with
  | nil =>
    intro fuel l sc vars _ g hr hf
    obtain ⟨fuel, rfl⟩ : ∃ f, fuel = f + 1 := ⟨fuel - 1, by omega⟩
    obtain ⟨s1, k, g1, hr1, he⟩ := readItem_noise_size buf tailNoise htn [NUL] sc g hr
    exact ⟨[], rfl, stmtLoop_eof (he.trans (readItem_eof buf [] k s1 g1 hr1))⟩
  | cons sg rest ih =>
    intro fuel l sc vars hwf g hr hf
    obtain ⟨ns, st⟩ := sg
    obtain ⟨hnw, hsw, hrw⟩ := hwf
    obtain ⟨fuel, rfl⟩ : ∃ f, fuel = f + 1 := ⟨fuel - 1, by simp at hf; omega⟩
    obtain ⟨s1, k, g1, hr1, he⟩ := readItem_noise_size buf ns hnw _ sc g hr
    obtain ⟨s2, ln, hitem, g2, hr2⟩ := readItem_stmt buf st _ hsw k s1 g1 hr1
    rw [stmtLoop_item (he.trans hitem) (st.item_ne_eof ln)]
    cases hap : applyItem inclExtends fs depth sub file l vars (st.item ln) with
    | error e =>
      refine ⟨ln :: List.replicate rest.length 0, by simp, ?_⟩
      simp only [List.zipWith_cons_cons, applyItems, hap]
    | ok r =>
      obtain ⟨l', vars'⟩ := r
      obtain ⟨lns, hl, heq⟩ := ih fuel l' s2 vars' hrw g2 hr2 (by simp at hf; omega)
      refine ⟨ln :: lns, by simp [hl], ?_⟩
      simp only [List.zipWith_cons_cons, applyItems, hap]
      exact heq

theorem fileBytes_length (segs : List FSeg) (tail : Bytes) :
    segs.length + tail.length ≤ (fileBytes segs tail).length := by
  induction segs with
  | nil => simp [fileBytes]
  | cons sg rest ih =>
    have h2 := noiseBytes_length sg.1 (sg.2.bytes (fileBytes rest tail))
    have h3 := sg.2.bytes_length (fileBytes rest tail)
    simp only [fileBytes, List.length_cons]
    omega

/-- One whole file: `parse_with_parser` on the written text. -/
theorem parseFile_as_written (inclExtends : Bool) (fs : Fs) (d : Nat) (l : Loader) (file content : Bytes)
    (vars : StrMap) (depth : Nat) (segs : List FSeg) (tailNoise : List Noise) (htn : ∀ n ∈ tailNoise, n.WF)
    (hwf : FileWF segs (noiseBytes tailNoise [NUL]))
    (htext : content ++ [NUL] = fileBytes segs (noiseBytes tailNoise [NUL])) :
    ∃ lns : List Nat, lns.length = segs.length ∧
      parseFile inclExtends fs (d + 1) l file content vars depth =
        applyItems inclExtends fs depth (parseFile inclExtends fs d) file
          (List.zipWith (fun (sg : FSeg) ln => sg.2.item ln) segs lns) l vars := by
  unfold parseFile
  simp only []
  rw [new_nul content]
  simp only []
  have a0 := Depfile.At.start content
  have hlen := fileBytes_length segs (noiseBytes tailNoise [NUL])
  rw [← htext] at hlen
  exact stmtLoop_file inclExtends fs file depth (parseFile inclExtends fs d) _ tailNoise htn segs _ l _ vars hwf a0.g
    (htext ▸ a0.rest) (by simp at hlen ⊢; omega)

/-- **The manifest is read into exactly the declared statements** (file level): if
    the main manifest's text is a sequence of written statements with blank lines and comments
    anywhere, `load::read` returns the fold of those statements' effects - rules and pools
    registered, bindings evaluated in order, every `build` statement added to the graph with its
    paths in their declared roles, defaults resolved - starting from the loader that knows only
    the manifest's own name. -/
theorem load_as_written (inclExtends : Bool) (fs : Fs) (main c content : Bytes) (hne : main.isEmpty = false)
    (hc : Canon.canon main = .ok c) (hfs : fs c = some content)
    (segs : List FSeg) (tailNoise : List Noise) (htn : ∀ n ∈ tailNoise, n.WF)
    (hwf : FileWF segs (noiseBytes tailNoise [NUL]))
    (htext : content ++ [NUL] = fileBytes segs (noiseBytes tailNoise [NUL])) :
    ∃ lns : List Nat, lns.length = segs.length ∧
      loadWith inclExtends fs main =
        (applyItems inclExtends fs 0 (parseFile inclExtends fs (MAX_INCLUDE_DEPTH + 1)) c
          (List.zipWith (fun (sg : FSeg) ln => sg.2.item ln) segs lns)
          { graph := { files := [⟨c, none, []⟩] } } []).map (·.1) := by
  obtain ⟨lns, hl, h⟩ := parseFile_as_written inclExtends fs (MAX_INCLUDE_DEPTH + 1)
    { graph := { files := [⟨c, none, []⟩] } } c content [] 0 segs tailNoise htn hwf htext
  refine ⟨lns, hl, ?_⟩
  unfold loadWith
  rw [if_neg (by simp [hne]), hc]
  have hid : idFromCanonical {} c = ({ files := [⟨c, none, []⟩] }, 0) := by
    unfold idFromCanonical; simp
  simp only [hid, List.getElem?_cons_zero, Option.map_some, Option.getD_some, hfs]
  rw [h]

/-- Non-vacuity: the file `#hi` / `build o: cc a | b || c` / `  x = 1` / blank line. -/
def exBuild2 : BuildText := { exBuild with eouts := ([], [(([], [111]), [])]) }

theorem exBuild_wf2 : BuildWF exBuild2 [NL, NUL] := exBuild_wf_of [] [NL, NUL] ⟨_, _, rfl, by decide⟩

example : FileWF [([.comment [104, 105]], .build [.sp] exBuild2)] (noiseBytes [.blank] [NUL]) :=
  ⟨by intro n hn; simp at hn; subst hn; intro c hc; simp at hc; rcases hc with rfl | rfl <;> decide,
   ⟨by simp, exBuild_wf2, gapEnd_of (by decide) (by decide)⟩, trivial⟩

/-- The statements' effects without the end-of-file step. -/
def runItems (inclExtends : Bool) (fs : Fs) (depth : Nat)
    (sub : Loader → Bytes → Bytes → StrMap → Nat → Except LoadErr (Loader × StrMap))
    (file : Bytes) : List Item → Loader → StrMap → Except LoadErr (Loader × StrMap)
  | [], l, vars => .ok (l, vars)
  | it :: rest, l, vars =>
    match applyItem inclExtends fs depth sub file l vars it with
    | .error e => .error e
    | .ok (l', vars') => runItems inclExtends fs depth sub file rest l' vars'

/-- **Top-down**: what the first statements of a file do - the scope their bindings build, the
    graph their `build` statements add, each evaluated in the scope as of its own line - does not
    depend on anything written after them; the rest of the file continues from that state. -/
theorem applyItems_append (inclExtends : Bool) (fs : Fs) (depth : Nat)
    (sub : Loader → Bytes → Bytes → StrMap → Nat → Except LoadErr (Loader × StrMap))
    (file : Bytes) (a b : List Item) (l : Loader) (vars : StrMap) :
    applyItems inclExtends fs depth sub file (a ++ b) l vars =
      match runItems inclExtends fs depth sub file a l vars with
      | .error e => .error e
      | .ok (l', vars') => applyItems inclExtends fs depth sub file b l' vars' := by
  induction a generalizing l vars with
  | nil => rfl
  | cons it rest ih =>
    simp only [List.cons_append, applyItems, runItems]
    cases applyItem inclExtends fs depth sub file l vars it with
    | error e => rfl
    | ok r => obtain ⟨l', v'⟩ := r; exact ih l' v'

/-- A binding is evaluated exactly once, in the scope of the lines before it, and a later
    re-binding of the same name replaces it for the lines after only. -/
theorem runItems_binding (inclExtends : Bool) (fs : Fs) (depth : Nat)
    (sub : Loader → Bytes → Bytes → StrMap → Nat → Except LoadErr (Loader × StrMap))
    (file : Bytes) (name : Bytes) (val : EvalStr) (rest : List Item) (l : Loader) (vars : StrMap) :
    runItems inclExtends fs depth sub file (.binding name val :: rest) l vars =
      runItems inclExtends fs depth sub file rest l (Eval.insert vars name (evaluate [envOfStr vars] val)) := rfl

end N2V.Load
