import N2V.Lemmas.SchedDefs
namespace N2V.Sched

@[simp] theorem upd_same {α} (f : Nat → α) (i : Nat) (v : α) : upd f i v i = v := by simp [upd]
theorem upd_ne {α} {f : Nat → α} {i j : Nat} {v : α} (h : j ≠ i) : upd f i v j = f j := by
  simp [upd, h]

theorem cnt_succ (n : Nat) (p : Nat → Bool) : cnt (n + 1) p = cnt n p + (if p n then 1 else 0) := by
  unfold cnt
  rw [List.range_succ, List.filter_append]
  simp [List.filter_cons]
  split <;> simp

theorem cnt_congr (n : Nat) (p q : Nat → Bool) (h : ∀ b, b < n → p b = q b) : cnt n p = cnt n q := by
  induction n with
  | zero => simp [cnt]
  | succ n ih =>
    rw [cnt_succ, cnt_succ, ih (fun b hb => h b (by omega)), h n (by omega)]

theorem cnt_update (n : Nat) (p q : Nat → Bool) (id : Nat) (hid : id < n)
    (h : ∀ b, b ≠ id → p b = q b) :
    (cnt n q : Int) = cnt n p - (if p id then 1 else 0) + (if q id then 1 else 0) := by
  induction n with
  | zero => omega
  | succ n ih =>
    rw [cnt_succ, cnt_succ]
    by_cases hn : id = n
    · subst hn
      have : cnt id p = cnt id q := cnt_congr _ _ _ (fun b hb => h b (by omega))
      rw [this]
      split <;> split <;> simp <;> omega
    · have := ih (by omega)
      rw [h n (fun e => hn e.symm)]
      split <;> simp at * <;> omega

theorem cnt_le (n : Nat) (p : Nat → Bool) : cnt n p ≤ n := by
  unfold cnt
  have := List.length_filter_le p (List.range n)
  simpa using this

theorem cnt_eq_zero_iff {n : Nat} {p : Nat → Bool} : cnt n p = 0 ↔ ∀ b, b < n → p b = false := by
  simp [cnt, List.filter_eq_nil_iff]

theorem cnt_mono (n : Nat) (p q : Nat → Bool) (h : ∀ b, b < n → p b = true → q b = true) : cnt n p ≤ cnt n q := by
  induction n with
  | zero => simp [cnt]
  | succ n ih =>
    rw [cnt_succ, cnt_succ]
    have := ih (fun b hb => h b (by omega))
    have hn := h n (by omega)
    cases hp : p n with
    | false => simp; omega
    | true => rw [hn hp]; simp; omega

theorem cnt_flip (n : Nat) (p q : Nat → Bool) (id : Nat) (hid : id < n) (h : ∀ b, b ≠ id → p b = q b)
    (hp : p id = false) (hq : q id = true) : cnt n q = cnt n p + 1 := by
  have := cnt_update n p q id hid h
  rw [hp, hq] at this
  simp at this
  omega

theorem cnt_lt (n : Nat) (p q : Nat → Bool) (h : ∀ b, b < n → p b = true → q b = true)
    (id : Nat) (hid : id < n) (hq : q id = true) (hp : p id = false) : cnt n p + 1 ≤ cnt n q := by
  have h1 : cnt n p ≤ cnt n (fun b => if b = id then false else q b) := by
    apply cnt_mono
    intro b hb hpb
    by_cases e : b = id
    · subst e; rw [hp] at hpb; cases hpb
    · simp [e]; exact h b hb hpb
  have h2 := cnt_flip n (fun b => if b = id then false else q b) q id hid (fun b hb => by simp [hb]) (by simp) hq
  omega

theorem map_name_map {f : Pool → Pool} (hf : ∀ p, (f p).name = p.name) (ps : List Pool) :
    (ps.map f).map (·.name) = ps.map (·.name) := by
  rw [List.map_map]; exact List.map_congr_left fun p _ => hf p

theorem map_named {l r : List Pool} {p : Pool} (hnd : ((l ++ p :: r).map (·.name)).Nodup)
    (f : Pool → Pool) :
    (l ++ p :: r).map (fun x => if x.name = p.name then f x else x) = l ++ f p :: r := by
  have hne : ∀ x, x ∈ l ∨ x ∈ r → x.name ≠ p.name := fun x hx e => by
    simp only [List.map_append, List.map_cons, List.nodup_append, List.nodup_cons, List.mem_map,
      List.mem_cons] at hnd
    rcases hx with hx | hx
    · exact hnd.2.2 _ ⟨x, hx, rfl⟩ _ (.inl rfl) e
    · exact hnd.2.1.1 ⟨x, hx, e⟩
  have hid : ∀ (xs : List Pool), (∀ x ∈ xs, x.name ≠ p.name) →
      xs.map (fun x => if x.name = p.name then f x else x) = xs :=
    fun xs hx => (List.map_congr_left fun x h => if_neg (hx x h)).trans (List.map_id' xs)
  rw [List.map_append, List.map_cons, hid l fun x hx => hne x (.inl hx),
    hid r fun x hx => hne x (.inr hx), if_pos rfl]

theorem modPool_eq_some {ps : List Pool} {name : Bytes} {f : Pool → Pool} {ps' : List Pool} :
    modPool ps name f = some ps' ↔
      ∃ l p r, ps = l ++ p :: r ∧ p.name = name ∧ (∀ q ∈ l, q.name ≠ name) ∧ ps' = l ++ f p :: r := by
  induction ps generalizing ps' with
  | nil => simp [modPool]
  | cons a rest ih =>
    unfold modPool
    split
    · rename_i ha
      constructor
      · rintro ⟨⟩; exact ⟨[], a, rest, rfl, ha, by simp, rfl⟩
      · rintro ⟨l, p, r, e, hp, hl, rfl⟩
        cases l with
        | nil => cases e; rfl
        | cons b l => cases e; exact absurd ha (hl _ (by simp))
    · rename_i ha
      simp only [Option.map_eq_some_iff, ih]
      constructor
      · rintro ⟨_, ⟨l, p, r, rfl, hp, hl, rfl⟩, rfl⟩
        exact ⟨a :: l, p, r, rfl, hp, by simpa [ha] using hl, rfl⟩
      · rintro ⟨l, p, r, e, hp, hl, rfl⟩
        cases l with
        | nil => cases e; exact absurd hp ha
        | cons b l => cases e; exact ⟨_, ⟨l, p, r, rfl, hp, fun q hq => hl q (by simp [hq]), rfl⟩, rfl⟩

theorem modPool_eq_none {ps : List Pool} {name : Bytes} {f : Pool → Pool} :
    modPool ps name f = none ↔ ∀ p ∈ ps, p.name ≠ name := by
  induction ps with
  | nil => simp [modPool]
  | cons a rest ih => unfold modPool; split <;> simp [*]

theorem modPool_map_eq {β} (h : Pool → β) {ps ps' : List Pool} {name : Bytes} {f : Pool → Pool}
    (hm : modPool ps name f = some ps') (hf : ∀ p, h (f p) = h p) : ps'.map h = ps.map h := by
  obtain ⟨l, p, r, rfl, -, -, rfl⟩ := modPool_eq_some.mp hm
  simp [hf]

theorem modPool_names (ps : List Pool) (name : Bytes) (f : Pool → Pool) (ps' : List Pool)
    (hf : ∀ p, (f p).name = p.name) (h : modPool ps name f = some ps') :
    ps'.map (·.name) = ps.map (·.name) := modPool_map_eq _ h hf

theorem modPool_mem (ps : List Pool) (name : Bytes) (f : Pool → Pool) (ps' : List Pool)
    (h : modPool ps name f = some ps') (q : Pool) :
    q ∈ ps' → (∃ p ∈ ps, p.name = name ∧ q = f p) ∨ (q ∈ ps ∧ q.name ≠ name) ∨ (q ∈ ps) := by
  obtain ⟨l, p, r, rfl, hp, -, rfl⟩ := modPool_eq_some.mp h
  simp only [List.mem_append, List.mem_cons]
  rintro (hq | rfl | hq)
  · exact .inr (.inr (.inl hq))
  · exact .inl ⟨p, .inr (.inl rfl), hp, rfl⟩
  · exact .inr (.inr (.inr (.inr hq)))

theorem modPool_eq_map (ps : List Pool) (name : Bytes) (f : Pool → Pool) (ps' : List Pool)
    (hnd : (ps.map (·.name)).Nodup) (h : modPool ps name f = some ps') :
    ps' = ps.map (fun p => if p.name = name then f p else p) := by
  obtain ⟨l, p, r, rfl, rfl, -, rfl⟩ := modPool_eq_some.mp h
  exact (map_named hnd f).symm

variable {g : Graph} {s s' : S} {id : Nat} {new : St}

theorem set_eq (h : set g s id new = .ok s') :
    ∃ ps1 ps2,
      (if s.st id = .running then modPool s.pools (g.build id).pool decRunning else some s.pools) = some ps1 ∧
      (if new = .running then modPool ps1 (g.build id).pool incRunning else some ps1) = some ps2 ∧
      s' = { s with
        st := upd s.st id new,
        counts := if (g.build id).phony then s.counts else (s.counts.add (s.st id) (-1)).add new 1,
        pending := s.pending + (if s.st id = .unknown then 1 else 0) - (if new = .done ∨ new = .failed then 1 else 0),
        ready := if new = .ready then s.ready ++ [id] else s.ready,
        pools := ps2,
        trace := Ev.set id (s.st id) new
          (countsList (if (g.build id).phony then s.counts else (s.counts.add (s.st id) (-1)).add new 1))
          (s.pending + (if s.st id = .unknown then 1 else 0) - (if new = .done ∨ new = .failed then 1 else 0))
          :: s.trace } := by
  unfold set at h
  simp only at h
  split at h
  · cases h
  · rename_i ps1 h1
    split at h
    · cases h
    · rename_i ps2 h2
      cases h
      exact ⟨ps1, ps2, h1, h2, rfl⟩

theorem set_modPool (h : set g s id new = .ok s') :
    ∃ ps1,
      (if s.st id = .running then modPool s.pools (g.build id).pool decRunning else some s.pools) = some ps1 ∧
      (if new = .running then modPool ps1 (g.build id).pool incRunning else some ps1) = some s'.pools := by
  obtain ⟨ps1, ps2, h1, h2, rfl⟩ := set_eq h
  exact ⟨ps1, h1, h2⟩

theorem set_st (h : set g s id new = .ok s') : s'.st = upd s.st id new := by
  obtain ⟨_, _, -, -, rfl⟩ := set_eq h; rfl

theorem set_st_self (h : set g s id new = .ok s') : s'.st id = new := by
  rw [set_st h, upd_same]

theorem set_st_ne (h : set g s id new = .ok s') {b : Nat} (hb : b ≠ id) : s'.st b = s.st b := by
  rw [set_st h, upd_ne hb]

theorem set_counts (h : set g s id new = .ok s') :
    s'.counts = if (g.build id).phony then s.counts else (s.counts.add (s.st id) (-1)).add new 1 := by
  obtain ⟨_, _, -, -, rfl⟩ := set_eq h; rfl

theorem set_pending (h : set g s id new = .ok s') :
    s'.pending =
      s.pending + (if s.st id = .unknown then 1 else 0) - (if new = .done ∨ new = .failed then 1 else 0) := by
  obtain ⟨_, _, -, -, rfl⟩ := set_eq h; rfl

theorem set_ready (h : set g s id new = .ok s') :
    s'.ready = if new = .ready then s.ready ++ [id] else s.ready := by
  obtain ⟨_, _, -, -, rfl⟩ := set_eq h; rfl

theorem set_trace (h : set g s id new = .ok s') :
    s'.trace = Ev.set id (s.st id) new (countsList s'.counts) s'.pending :: s.trace := by
  obtain ⟨_, _, -, -, rfl⟩ := set_eq h; rfl

theorem set_running (h : set g s id new = .ok s') : s'.running = s.running := by
  obtain ⟨_, _, -, -, rfl⟩ := set_eq h; rfl

theorem set_tasksFailed (h : set g s id new = .ok s') : s'.tasksFailed = s.tasksFailed := by
  obtain ⟨_, _, -, -, rfl⟩ := set_eq h; rfl

theorem set_tasksRun (h : set g s id new = .ok s') : s'.tasksRun = s.tasksRun := by
  obtain ⟨_, _, -, -, rfl⟩ := set_eq h; rfl

theorem set_failuresLeft (h : set g s id new = .ok s') : s'.failuresLeft = s.failuresLeft := by
  obtain ⟨_, _, -, -, rfl⟩ := set_eq h; rfl

theorem set_pools_eq (h : set g s id new = .ok s') (hp : s.st id ≠ .running) (hn : new ≠ .running) :
    s'.pools = s.pools := by
  obtain ⟨_, h1, h2⟩ := set_modPool h
  rw [if_neg hp] at h1
  rw [if_neg hn] at h2
  cases h1; exact (Option.some.inj h2).symm

end N2V.Sched
