/-
  The want phase terminates: with the fuel `wantFuel g` the mutually recursive
  `want_file`/`want_build` (and the loops over ordering and validation inputs) never run out of
  fuel, for every graph whose cross references are in range, every state and every target —
  including the re-entrant visits through validation edges and arbitrarily long (repeated)
  input lists.

  Measure: Φ(s, stack) = (#builds still Unknown) · (F+1) + (#files not on the cycle stack).
  Descending into a producer pushes a file that is not on the stack (Φ drops by one); crossing a
  validation edge restarts with an empty stack, but only after the build was marked (one Unknown
  fewer, Φ drops by at least one).  A frame at potential Φ needs at most K·Φ + 2 levels of fuel,
  K = longest input list + 3 (walking a list of length n costs n levels).
-/
import N2V.Lemmas.SchedClosure
import N2V.Lemmas.CanonBase
namespace N2V.Sched

/-- Files named in input lists are files of the graph. -/
def FilesOK (g : Graph) : Prop :=
  ∀ b, b < g.nBuilds → ∀ f ∈ (g.build b).ordering ++ (g.build b).validation, f < g.nFiles

theorem foldl_max_ge (l : List Nat) (f : Nat → Nat) (m0 : Nat) :
    m0 ≤ l.foldl (fun m b => max m (f b)) m0 ∧ ∀ b ∈ l, f b ≤ l.foldl (fun m b => max m (f b)) m0 := by
  induction l generalizing m0 with
  | nil => exact ⟨Nat.le_refl _, fun b hb => by cases hb⟩
  | cons x xs ih =>
    simp only [List.foldl_cons]
    obtain ⟨h1, h2⟩ := ih (max m0 (f x))
    refine ⟨Nat.le_trans (Nat.le_max_left _ _) h1, ?_⟩
    intro b hb
    rcases List.mem_cons.mp hb with rfl | hb
    · exact Nat.le_trans (Nat.le_max_right _ _) h1
    · exact h2 b hb

theorem le_maxIns (g : Graph) (b : Nat) (hb : b < g.nBuilds) :
    (g.build b).ordering.length ≤ maxIns g ∧ (g.build b).validation.length ≤ maxIns g := by
  have := (foldl_max_ge (List.range g.nBuilds)
    (fun b => max (g.build b).ordering.length (g.build b).validation.length) 0).2 b (List.mem_range.mpr hb)
  unfold maxIns
  constructor
  · exact Nat.le_trans (Nat.le_max_left _ _) this
  · exact Nat.le_trans (Nat.le_max_right _ _) this

def unk (g : Graph) (s : S) : Nat := cnt g.nBuilds (fun b => s.st b == .unknown)
def offStack (g : Graph) (stack : List Nat) : Nat := cnt g.nFiles (fun x => !stack.contains x)

def pot (g : Graph) (s : S) (stack : List Nat) : Nat := unk g s * (g.nFiles + 1) + offStack g stack

theorem unk_mono (g : Graph) {s s' : S} (h : Mono s s') : unk g s' ≤ unk g s :=
  cnt_mono _ _ _ fun b _ hb => by simp only [beq_iff_eq] at hb ⊢; exact h.unknown hb

theorem unk_lt (g : Graph) {s s' : S} (h : Mono s s') (id : Nat) (hid : id < g.nBuilds)
    (hu : s.st id = .unknown) (hk : s'.st id ≠ .unknown) : unk g s' + 1 ≤ unk g s :=
  cnt_lt _ _ _ (fun b _ hb => by simp only [beq_iff_eq] at hb ⊢; exact h.unknown hb) id hid
    (by simpa using hu) (by simpa using hk)

theorem offStack_le (g : Graph) (stack : List Nat) : offStack g stack ≤ g.nFiles := cnt_le _ _

theorem offStack_push (g : Graph) (stack : List Nat) (f : Nat) (hf : f < g.nFiles) (hn : f ∉ stack) :
    offStack g (stack ++ [f]) + 1 = offStack g stack := by
  have := cnt_flip g.nFiles (fun x => !(stack ++ [f]).contains x) (fun x => !stack.contains x) f hf
    (fun b hb => by simp [hb]) (by simp) (by simpa using hn)
  unfold offStack; omega

/- How the potential, scaled by the cost `k` of one level of nesting, moves: down by `k` when a
   file is pushed on the stack and when a build is marked and the stack emptied, never up. -/

theorem pot_push (g : Graph) (k : Nat) (s : S) {stack : List Nat} {f : Nat} (hf : f < g.nFiles) (hn : f ∉ stack) :
    k * pot g s (stack ++ [f]) + k = k * pot g s stack := by
  rw [← Nat.mul_succ]; congr 1
  have := offStack_push g stack f hf hn
  unfold pot; omega

theorem pot_mono (g : Graph) (k : Nat) {s s' : S} (h : Mono s s') (stack : List Nat) :
    k * pot g s' stack ≤ k * pot g s stack :=
  Nat.mul_le_mul_left k (Nat.add_le_add_right (Nat.mul_le_mul_right _ (unk_mono g h)) _)

theorem pot_mark (g : Graph) (k : Nat) {s s' : S} (h : Mono s s') {id : Nat} (hid : id < g.nBuilds)
    (hu : s.st id = .unknown) (hk : s'.st id ≠ .unknown) (stack : List Nat) :
    k * pot g s' [] + k ≤ k * pot g s stack := by
  rw [← Nat.mul_succ]; apply Nat.mul_le_mul_left
  have := Nat.mul_le_mul_right (g.nFiles + 1) (unk_lt g h id hid hu hk)
  have := offStack_le g []
  rw [Nat.add_mul] at *
  unfold pot; omega

/-- The outcome is not the model's "ran out of fuel". -/
def FuelOK {α : Type} : WR α → Prop
  | .bad m => m ≠ "fuel"
  | _ => True

theorem FuelOK.void {α : Type} {w : WR α} (h : FuelOK w) : FuelOK w.void := by cases w <;> exact h

theorem set_panic_msg {g : Graph} {s : S} {id : Nat} {new : St} {m : String} (h : set g s id new = .panic m) :
    m ≠ "fuel" := by
  unfold set at h
  simp only at h
  split at h
  · cases h; simp
  · split at h
    · cases h; simp
    · cases h

theorem term_all (g : Graph) (gok : GraphOK g) (fok : FilesOK g) : ∀ fuel : Nat,
    (∀ s stack f, f < g.nFiles → (maxIns g + 3) * pot g s stack + 2 ≤ fuel → FuelOK (wantFile g fuel s stack f)) ∧
    (∀ s stack id, id < g.nBuilds → 1 ≤ fuel →
      (s.st id = .unknown → (maxIns g + 3) * pot g s stack + maxIns g + 4 ≤ fuel) → FuelOK (wantBuild g fuel s stack id)) ∧
    (∀ s stack fs rd, (∀ f ∈ fs, f < g.nFiles) → fs.length + (maxIns g + 3) * pot g s stack + 3 ≤ fuel →
      FuelOK (wantIns g fuel s stack fs rd)) := by
  intro fuel
  induction fuel with
  | zero => exact ⟨fun _ _ _ _ h => by omega, fun _ _ _ _ h => by omega, fun _ _ _ _ _ h => by omega⟩
  | succ fuel ih =>
    obtain ⟨ihF, ihB, ihI⟩ := ih
    refine ⟨?_, ?_, ?_⟩
    · intro s stack f hf hfuel
      unfold wantFile
      split
      · trivial
      · rename_i hidx
        split
        · trivial
        · rename_i bid hprod
          have := pot_push g (maxIns g + 3) s hf (List.idxOf?_eq_none_iff.mp hidx)
          have hb := ihB s (stack ++ [f]) bid (gok f bid hprod) (by omega) (fun _ => by omega)
          split <;> rename_i hw <;> rw [hw] at hb
          · trivial
          · trivial
          · exact hb
    · intro s stack id hid _ hfuel
      unfold wantBuild
      split
      · trivial
      · rename_i hne
        have hu : s.st id = .unknown := by simpa using hne
        have hf := hfuel hu
        obtain ⟨lo, lv⟩ := le_maxIns g id hid
        have hi := ihI s stack (g.build id).ordering true (fun f hf' => fok id hid f (by simp [hf'])) (by omega)
        split
        · rename_i rd s1 hins
          simp only []
          split
          · rename_i s2 hset
            -- at the validation loop: one `Unknown` fewer, empty stack
            have := pot_mark g (maxIns g + 3) (((want_monos g).of_ins hins).trans (set_mono (ready_or_want_ne rd) hset))
              hid hu (set_marked (ready_or_want_ne rd) hset) stack
            have hv := (ihI s2 [] (g.build id).validation true (fun f hf' => fok id hid f (by simp [hf']))
              (by omega)).void
            rw [← wantVals_eq] at hv
            split <;> rename_i hw <;> rw [hw] at hv
            · trivial
            · trivial
            · exact hv
          · rename_i m hp; exact set_panic_msg hp
          · show "set" ≠ "fuel"; simp
        · trivial
        · rename_i m hins; rw [hins] at hi; exact hi
    · intro s stack fs rd hfs hfuel
      cases fs with
      | nil => simp only [wantIns]; trivial
      | cons f fs =>
        simp only [wantIns]
        simp only [List.length_cons] at hfuel
        have hf := ihF s stack f (hfs f (by simp)) (by omega)
        split <;> rename_i hw <;> rw [hw] at hf
        · rename_i r s'
          have := pot_mono g (maxIns g + 3) ((want_monos g).of_file hw) stack
          exact ihI s' stack fs _ (fun x hx => hfs x (by simp [hx])) (by omega)
        · trivial
        · exact hf

theorem pot_le (g : Graph) (s : S) : pot g s [] + 1 ≤ (g.nBuilds + 1) * (g.nFiles + 1) := by
  unfold pot
  have h1 : unk g s ≤ g.nBuilds := cnt_le _ _
  have h2 := offStack_le g []
  have := Nat.mul_le_mul_right (g.nFiles + 1) h1
  rw [Nat.add_mul]
  omega

/-- **`Work::want_file` terminates**: with the model's fuel the recursion never runs dry, for
    every graph with in-range cross references, every state and every file of the graph. -/
theorem want_never_out_of_fuel (g : Graph) (gok : GraphOK g) (fok : FilesOK g) (s : S) (f : Nat)
    (hf : f < g.nFiles) : FuelOK (want g s f) := by
  have hp := Nat.mul_le_mul_left (maxIns g + 3) (pot_le g s)
  rw [Nat.mul_succ] at hp
  rw [want_eq]
  exact ((term_all g gok fok (wantFuel g)).1 s [] f hf (by unfold wantFuel; omega)).void

end N2V.Sched

namespace N2V.Run
open N2V N2V.Sched

theorem wantAll_fuelOK (g : Graph) (gok : GraphOK g) (fok : FilesOK g) (fs : List Nat) (hfs : ∀ f ∈ fs, f < g.nFiles)
    (s : S) : FuelOK (wantAll g s fs) := by
  induction fs generalizing s with
  | nil => trivial
  | cons f fs ih =>
    unfold wantAll
    have hw := want_never_out_of_fuel g gok fok s f (hfs f (by simp))
    split
    · rename_i s' _; exact ih (fun x hx => hfs x (by simp [hx])) s'
    · rename_i r hne
      cases h : want g s f with
      | ok u s' => exact absurd h (hne u s')
      | err m s' => trivial
      | bad m => rw [h] at hw; exact hw

theorem lookup_lt (g : Graph) (n : Bytes) (t : Nat) (h : lookup g n = .ok (some t)) : t < g.nFiles := by
  unfold lookup at h
  split at h
  · simp only [Res.ok.injEq] at h
    have := List.mem_of_find?_eq_some h
    exact List.mem_range.mp this
  · cases h
  · cases h

theorem lookup_not_fuel (g : Graph) (n : Bytes) (m : String) (h : lookup g n = .panic m) : m ≠ "fuel" := by
  unfold lookup at h
  cases n with
  | nil =>
    simp only [Canon.canon] at h
    cases h; simp
  | cons c r =>
    obtain ⟨t, ht⟩ := Canon.canon_ok (s := c :: r) (by simp)
    rw [ht] at h
    cases h

theorem lookupM_lt (g : Graph) (a : Args) (n : Bytes) (t : Nat) (h : lookupM g a n = .ok (some t)) : t < g.nFiles := by
  unfold lookupM at h
  split at h
  · rename_i t' hl
    have := lookup_lt g n t' hl
    split at h
    · split at h
      · cases h; exact this
      · cases h
    · cases h; exact this
  · rename_i r hne
    exact lookup_lt g n t h

theorem lookupM_not_fuel (g : Graph) (a : Args) (n : Bytes) (m : String) (h : lookupM g a n = .panic m) : m ≠ "fuel" := by
  unfold lookupM at h
  split at h
  · split at h
    · split at h <;> cases h
    · cases h
  · exact lookup_not_fuel g n m h

/-- Every way `run::build` marks its targets — the manifest, named targets, defaults, or every
    file — terminates. -/
theorem wantTargets_fuelOK (g : Graph) (gok : GraphOK g) (fok : FilesOK g) (a : Args) (ns : List Bytes) (s : S) :
    FuelOK (wantTargets g a s ns) := by
  induction ns generalizing s with
  | nil => trivial
  | cons n ns ih =>
    unfold wantTargets
    split
    · split
      · exact ih s
      · trivial
    · rename_i t hl
      split
      · exact ih s
      · have hw := want_never_out_of_fuel g gok fok s t (lookupM_lt g a n t hl)
        split
        · rename_i s' _; exact ih s'
        · rename_i r hne
          cases h : want g s t with
          | ok u s' => exact absurd h (hne u s')
          | err m s' => trivial
          | bad m => rw [h] at hw; exact hw
    · rename_i m hl; exact lookupM_not_fuel g a n m hl
    · show "lookup" ≠ "fuel"; simp

end N2V.Run
