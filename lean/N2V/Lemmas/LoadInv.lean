/-
  Cross-reference invariant of the graph the loader builds (`Graph::add_build`, `GraphFiles`,
  `Loader::{path, add_build}`, the statement loop with include/subninja): every loaded manifest —
  any file system, any nesting — yields a graph in which each file has at most one producing step,
  a file's producer lists it, every step is a dependent of its inputs, no step lists an output
  twice, and no two files share a name.
-/
import N2V.Lemmas.LoadStep
namespace N2V.Load
open N2V N2V.Scanner N2V.Eval N2V.Parse

theorem modFile_get (files : List FileM) (o i : Nat) (f : FileM → FileM) :
    (modFile files o f)[i]? = if i = o then files[i]?.map f else files[i]? := by
  unfold modFile
  by_cases h : i = o
  · subst h
    simp only [if_true]
    cases hx : files[i]? with
    | none => simp [hx]
    | some x =>
      have hl := (List.getElem?_eq_some_iff.mp hx).1
      simp [hl]
  · simp only [h, if_false]
    cases hx : files[o]? with
    | none => rfl
    | some x => simp only []; rw [List.getElem?_set_ne (fun e => h e.symm)]

@[simp] theorem modFile_len (files : List FileM) (o : Nat) (f : FileM → FileM) :
    (modFile files o f).length = files.length := by
  unfold modFile; split <;> simp

theorem modFile_self {files : List FileM} {o : Nat} {x : FileM} {f : FileM → FileM}
    (hx : files[o]? = some x) (hf : f x = x) : modFile files o f = files := by
  obtain ⟨hl, rfl⟩ := List.getElem?_eq_some_iff.mp hx
  unfold modFile
  rw [hx]
  simp only [hf, List.set_getElem_self]

theorem getElem?_append_one {α} (l : List α) (x : α) (p : Nat) (y : α) (h : (l ++ [x])[p]? = some y) :
    l[p]? = some y ∨ (p = l.length ∧ y = x) := by
  rw [List.getElem?_append] at h
  split at h
  · exact Or.inl h
  · rw [List.getElem?_singleton] at h
    split at h
    · exact Or.inr ⟨by omega, (Option.some.inj h).symm⟩
    · cases h

structure GInv (g : GraphM) : Prop where
  ins : ∀ (p : Nat) (bm : BuildM), g.builds[p]? = some bm → ∀ i ∈ bm.ins,
    ∃ fm : FileM, g.files[i]? = some fm ∧ p ∈ fm.dependents
  outs : ∀ (p : Nat) (bm : BuildM), g.builds[p]? = some bm → ∀ o ∈ bm.outs,
    ∃ fm : FileM, g.files[o]? = some fm ∧ fm.input = some p
  prod : ∀ (f : Nat) (fm : FileM) (p : Nat), g.files[f]? = some fm → fm.input = some p →
    ∃ bm : BuildM, g.builds[p]? = some bm ∧ f ∈ bm.outs
  nodup : ∀ (p : Nat) (bm : BuildM), g.builds[p]? = some bm → bm.outs.Nodup
  names : ∀ (i j : Nat) (fi fj : FileM), g.files[i]? = some fi → g.files[j]? = some fj → fi.name = fj.name → i = j

theorem ginv_empty : GInv {} :=
  ⟨fun p bm h => by simp at h, fun p bm h => by simp at h, fun f fm p h => by simp at h,
   fun p bm h => by simp at h, fun i j fi fj h => by simp at h⟩

/-- **At most one producing step**: an output listed by two build statements of a loaded graph
    is listed by one and the same statement. -/
theorem GInv.unique_producer {g : GraphM} (inv : GInv g) (p q : Nat) (bp bq : BuildM) (o : Nat)
    (hp : g.builds[p]? = some bp) (hq : g.builds[q]? = some bq) (hop : o ∈ bp.outs) (hoq : o ∈ bq.outs) :
    p = q := by
  obtain ⟨fm, h1, h2⟩ := inv.outs p bp hp o hop
  obtain ⟨fm', h1', h2'⟩ := inv.outs q bq hq o hoq
  rw [h1] at h1'; cases h1'
  rw [h2] at h2'; exact Option.some.inj h2'

theorem idFromCanonical_spec (g : GraphM) (name : Bytes) (inv : GInv g) :
    GInv (idFromCanonical g name).1 ∧ (idFromCanonical g name).1.builds = g.builds ∧
    (∃ extra, (idFromCanonical g name).1.files = g.files ++ extra) ∧
    (idFromCanonical g name).2 < (idFromCanonical g name).1.files.length ∧
    ∃ fm, (idFromCanonical g name).1.files[(idFromCanonical g name).2]? = some fm ∧ fm.name = name := by
  unfold idFromCanonical
  cases hfi : g.files.findIdx? (fun f => f.name == name) with
  | some i =>
    obtain ⟨hlt, hp, _⟩ := List.findIdx?_eq_some_iff_getElem.mp hfi
    exact ⟨inv, rfl, ⟨[], by simp⟩, hlt, g.files[i], by simp [hlt], by simpa using hp⟩
  | none =>
    have hnone : ∀ x ∈ g.files, x.name ≠ name := fun x hx => by
      simpa using List.findIdx?_eq_none_iff.mp hfi x hx
    have hget : ∀ (i : Nat) (fm : FileM), g.files[i]? = some fm → (g.files ++ [⟨name, none, []⟩])[i]? = some fm := by
      intro i fm h
      rw [List.getElem?_append_left (List.getElem?_eq_some_iff.mp h).1]; exact h
    refine ⟨⟨?_, ?_, ?_, inv.nodup, ?_⟩, rfl, ⟨_, rfl⟩, by simp, ⟨name, none, []⟩, by simp, rfl⟩
    · intro p bm hb i hi
      obtain ⟨fm, h1, h2⟩ := inv.ins p bm hb i hi
      exact ⟨fm, hget i fm h1, h2⟩
    · intro p bm hb o ho
      obtain ⟨fm, h1, h2⟩ := inv.outs p bm hb o ho
      exact ⟨fm, hget o fm h1, h2⟩
    · intro f fm p hf hin
      rcases getElem?_append_one _ _ f fm hf with h | ⟨_, h⟩
      · exact inv.prod f fm p h hin
      · subst h; cases hin
    · intro i j fi fj hi hj hn
      rcases getElem?_append_one _ _ i fi hi with h1 | ⟨h1, e1⟩ <;>
        rcases getElem?_append_one _ _ j fj hj with h2 | ⟨h2, e2⟩
      · exact inv.names i j fi fj h1 h2 hn
      · subst e2
        exact absurd hn (hnone fi (List.mem_of_getElem? h1))
      · subst e1
        exact absurd hn.symm (hnone fj (List.mem_of_getElem? h2))
      · omega

def setInput (newId : Nat) (fm : FileM) : FileM := { fm with input := some newId }

/-- Registering the inputs: each file gains the new id among its dependents once per mention. -/
theorem insFold_spec (newId : Nat) (ins : List Nat) : ∀ (files : List FileM),
    (ins.foldl (fun fs i => modFile fs i (fun f => { f with dependents := f.dependents ++ [newId] })) files).length = files.length ∧
    ∀ i : Nat, (ins.foldl (fun fs i => modFile fs i (fun f => { f with dependents := f.dependents ++ [newId] })) files)[i]?
      = files[i]?.map (fun fm => { fm with dependents := fm.dependents ++ List.replicate (ins.count i) newId }) := by
  induction ins with
  | nil => intro files; exact ⟨rfl, fun i => by simp⟩
  | cons x rest ih =>
    intro files
    simp only [List.foldl_cons]
    obtain ⟨hl, hg⟩ := ih (modFile files x (fun f => { f with dependents := f.dependents ++ [newId] }))
    refine ⟨by rw [hl, modFile_len], fun i => ?_⟩
    rw [hg i, modFile_get]
    by_cases hix : i = x
    · subst hix
      cases files[i]? <;> simp [List.replicate_succ]
    · rw [if_neg hix, List.count_cons_of_ne (Ne.symm hix)]

theorem setInput_idem (newId : Nat) (fm : FileM) : setInput newId (setInput newId fm) = setInput newId fm := rfl

theorem setInput_fix (newId : Nat) (fm : FileM) (h : fm.input = some newId) : setInput newId fm = fm := by
  cases fm; simp [setInput] at *; exact h.symm

/-- One round of the output loop that does not fail: the output is unclaimed, or claimed by this
    statement already (a repeat, counted; the table then stays as it is). -/
theorem claimOuts_cons_ok {newId : Nat} {loc : Loc} {builds : List BuildM} {o : Nat} {rest : List Nat}
    {files : List FileM} {dup : Nat} {r : List FileM × Nat}
    (h : claimOuts newId loc builds (o :: rest) files dup = .ok r) :
    ∃ (f : FileM) (d : Nat), files[o]? = some f ∧
      (f.input = none ∧ d = dup ∨ f.input = some newId ∧ d = dup + 1) ∧
      claimOuts newId loc builds rest (modFile files o (setInput newId)) d = .ok r := by
  unfold claimOuts at h
  cases hx : files[o]? with
  | none => rw [hx] at h; cases h
  | some f =>
    rw [hx] at h
    simp only [] at h
    cases hi : f.input with
    | none => rw [hi] at h; exact ⟨f, dup, rfl, Or.inl ⟨hi, rfl⟩, h⟩
    | some prev =>
      rw [hi] at h
      simp only [] at h
      split at h
      · rename_i hp
        subst hp
        exact ⟨f, dup + 1, rfl, Or.inr ⟨hi, rfl⟩, by rwa [modFile_self hx (setInput_fix _ f hi)]⟩
      · cases h

theorem claimOuts_spec (newId : Nat) (loc : Loc) (builds : List BuildM) (os : List Nat) :
    ∀ (files : List FileM) (dup : Nat) (files2 : List FileM) (dup2 : Nat),
    claimOuts newId loc builds os files dup = .ok (files2, dup2) →
    files2.length = files.length ∧
    (∀ i : Nat, files2[i]? = if i ∈ os then files[i]?.map (setInput newId) else files[i]?) ∧
    (∀ o ∈ os, ∃ fm : FileM, files[o]? = some fm ∧ (fm.input = none ∨ fm.input = some newId)) ∧
    dup ≤ dup2 := by
  induction os with
  | nil =>
    intro files dup files2 dup2 h
    cases h
    exact ⟨rfl, fun i => by simp, fun o ho => by simp at ho, Nat.le_refl _⟩
  | cons o rest ih =>
    intro files dup files2 dup2 h
    obtain ⟨f, d, hx, hc, h⟩ := claimOuts_cons_ok h
    obtain ⟨hl, h1, h2, h3⟩ := ih _ _ _ _ h
    have hcf : f.input = none ∨ f.input = some newId := hc.imp And.left And.left
    refine ⟨by rw [hl, modFile_len], ?_, ?_, by rcases hc with hc | hc <;> omega⟩
    · intro i
      rw [h1 i, modFile_get]
      by_cases hio : i = o
      · subst hio; simp [hx, setInput]
      · simp [hio]
    · intro o' ho'
      by_cases hoo : o' = o
      · subst hoo; exact ⟨f, hx, hcf⟩
      · obtain ⟨fm, hf, hcm⟩ := h2 o' ((List.mem_cons.mp ho').resolve_left hoo)
        rw [modFile_get, if_neg hoo] at hf
        exact ⟨fm, hf, hcm⟩

/-- No repeated occurrence counted means no output was repeated. -/
theorem claimOuts_nodup (newId : Nat) (loc : Loc) (builds : List BuildM) (os : List Nat) :
    ∀ (files : List FileM) (dup : Nat) (files2 : List FileM),
    claimOuts newId loc builds os files dup = .ok (files2, dup) →
    os.Nodup ∧ ∀ o ∈ os, ∃ f : FileM, files[o]? = some f ∧ f.input = none := by
  induction os with
  | nil => intro files dup files2 _; exact ⟨List.nodup_nil, fun o ho => by simp at ho⟩
  | cons o rest ih =>
    intro files dup files2 h
    obtain ⟨f, d, hx, hc, h⟩ := claimOuts_cons_ok h
    have hle := (claimOuts_spec _ _ _ _ _ _ _ _ h).2.2.2
    obtain ⟨hi, rfl⟩ : f.input = none ∧ d = dup := by
      rcases hc with hc | hc
      · exact hc
      · omega
    obtain ⟨hn, hrest⟩ := ih _ _ _ h
    -- a later occurrence of `o` would have found it claimed
    have hrest' : ∀ o' ∈ rest, o' ≠ o ∧ ∃ f' : FileM, files[o']? = some f' ∧ f'.input = none := by
      intro o' ho'
      obtain ⟨f', hf', hi'⟩ := hrest o' ho'
      rw [modFile_get] at hf'
      by_cases hoo : o' = o
      · subst hoo
        rw [if_pos rfl, hx] at hf'
        cases hf'; cases hi'
      · rw [if_neg hoo] at hf'
        exact ⟨hoo, f', hf', hi'⟩
    refine ⟨List.nodup_cons.mpr ⟨fun hm => (hrest' o hm).1 rfl, hn⟩, fun o' ho' => ?_⟩
    rcases List.mem_cons.mp ho' with rfl | e
    · exact ⟨f, hx, hi⟩
    · exact (hrest' o' e).2

theorem removeDups_nodup (l : List Nat) (e : Nat) : (removeDups l 0 [] e []).1.Nodup := by
  have key : ∀ (l seen acc : List Nat) (i e : Nat), acc.Nodup → (∀ x ∈ acc, x ∈ seen) →
      (removeDups l i seen e acc).1.Nodup := by
    intro l
    induction l with
    | nil => intro seen acc i e h _; exact h
    | cons y rest ih =>
      intro seen acc i e hn hs
      unfold removeDups
      split
      · exact ih _ _ _ _ hn fun x hx => List.mem_append_left _ (hs x hx)
      · rename_i h
        refine ih _ _ _ _ (List.nodup_append.mpr ⟨hn, by simp, ?_⟩) ?_
        · intro a ha b hb e
          rw [List.mem_singleton.mp hb] at e
          exact h (by simpa using e ▸ hs a ha)
        · intro x hx
          rcases List.mem_append.mp hx with hx | hx
          · exact List.mem_append_left _ (hs x hx)
          · exact List.mem_append_right _ hx
  exact key l [] [] 0 e List.nodup_nil (fun _ h => h)

theorem removeDups_mem (l : List Nat) (e : Nat) (x : Nat) :
    x ∈ (removeDups l 0 [] e []).1 ↔ x ∈ l := by
  have key : ∀ (l seen acc : List Nat) (i e : Nat),
      x ∈ (removeDups l i seen e acc).1 ↔ x ∈ acc ∨ (x ∈ l ∧ x ∉ seen) := by
    intro l
    induction l with
    | nil => intro seen acc i e; simp [removeDups]
    | cons y rest ih =>
      intro seen acc i e
      unfold removeDups
      by_cases hxy : x = y
      · subst hxy; split <;> rename_i h <;> simp at h <;> simp [ih, h]
      · split <;> simp [ih, hxy]
  simpa using key l [] [] 0 e

theorem addBuild_ok {g : GraphM} {b : BuildM} {g' : GraphM} {w : Nat} (h : addBuild g b = .ok (g', w)) :
    (∃ b' : BuildM, g'.builds = g.builds ++ [b'] ∧ b'.ins = b.ins ∧ b'.outs.Nodup ∧ ∀ x, x ∈ b'.outs ↔ x ∈ b.outs) ∧
    g'.files.length = g.files.length ∧
    (∀ i : Nat, g'.files[i]? = g.files[i]?.map (fun fm =>
      { name := fm.name, input := if i ∈ b.outs then some g.builds.length else fm.input,
        dependents := fm.dependents ++ List.replicate (b.ins.count i) g.builds.length })) ∧
    ∀ o ∈ b.outs, ∃ fm : FileM, g.files[o]? = some fm ∧ (fm.input = none ∨ fm.input = some g.builds.length) := by
  unfold addBuild at h
  simp only [] at h
  cases hc : claimOuts g.builds.length b.loc g.builds b.outs
      (b.ins.foldl (fun fs i => modFile fs i (fun f => { f with dependents := f.dependents ++ [g.builds.length] })) g.files) 0 with
  | error e => rw [hc] at h; cases h
  | ok r =>
    obtain ⟨files2, dup⟩ := r
    rw [hc] at h
    cases h
    obtain ⟨hl1, hf1⟩ := insFold_spec g.builds.length b.ins g.files
    obtain ⟨hl2, hs1, hs2, _⟩ := claimOuts_spec _ _ _ _ _ _ _ _ hc
    refine ⟨⟨_, rfl, ?_, ?_, ?_⟩, hl2.trans hl1, ?_, ?_⟩
    · split <;> rfl
    · split
      · exact removeDups_nodup b.outs b.explicitOuts
      · rename_i hd
        have hd0 : w = 0 := by omega
        subst hd0
        exact (claimOuts_nodup _ _ _ _ _ _ _ hc).1
    · intro x
      split
      · exact removeDups_mem b.outs b.explicitOuts x
      · exact Iff.rfl
    · intro i
      show files2[i]? = _
      rw [hs1 i, hf1 i]
      cases g.files[i]? with
      | none => simp
      | some fm => by_cases ho : i ∈ b.outs <;> simp [ho, setInput]
    · intro o ho
      obtain ⟨fm1, h1, hc1⟩ := hs2 o ho
      rw [hf1 o] at h1
      obtain ⟨fm0, h0, rfl⟩ := Option.map_eq_some_iff.mp h1
      exact ⟨fm0, h0, hc1⟩

/-- **`Graph::add_build` keeps the cross references consistent.** -/
theorem addBuild_inv (g : GraphM) (b : BuildM) (g' : GraphM) (w : Nat) (inv : GInv g)
    (hins : ∀ i ∈ b.ins, i < g.files.length) (h : addBuild g b = .ok (g', w)) : GInv g' := by
  obtain ⟨⟨b', hb, hb'ins, hb'nd, hb'mem⟩, _, hfile, hclaim⟩ := addBuild_ok h
  have hnew : ∀ (p : Nat) (bm : BuildM), g'.builds[p]? = some bm →
      g.builds[p]? = some bm ∨ (p = g.builds.length ∧ bm = b') := by
    intro p bm hp; rw [hb] at hp; exact getElem?_append_one _ _ _ _ hp
  refine ⟨?_, ?_, ?_, ?_, ?_⟩
  · intro p bm hp i hi
    rw [hfile i]
    rcases hnew p bm hp with hp | ⟨rfl, rfl⟩
    · obtain ⟨fm0, h0, hd⟩ := inv.ins p bm hp i hi
      exact ⟨_, by rw [h0]; rfl, List.mem_append_left _ hd⟩
    · rw [hb'ins] at hi
      refine ⟨_, by rw [List.getElem?_eq_getElem (hins i hi)]; rfl, List.mem_append_right _ ?_⟩
      exact List.mem_replicate.mpr ⟨Nat.pos_iff_ne_zero.mp (List.count_pos_iff.mpr hi), rfl⟩
  · intro p bm hp o ho
    rw [hfile o]
    rcases hnew p bm hp with hp | ⟨rfl, rfl⟩
    · obtain ⟨fm0, h0, hin⟩ := inv.outs p bm hp o ho
      -- an output of an earlier statement is not claimable, so it is none of the new outputs
      have hno : o ∉ b.outs := by
        intro hm
        obtain ⟨fmx, hx, hcx⟩ := hclaim o hm
        rw [h0] at hx; cases hx
        have hpl := (List.getElem?_eq_some_iff.mp hp).1
        rw [hin] at hcx
        rcases hcx with e1 | e1
        · cases e1
        · have := Option.some.inj e1; omega
      exact ⟨_, by rw [h0]; rfl, by simp [hno, hin]⟩
    · have hm := (hb'mem o).mp ho
      obtain ⟨fm0, h0, _⟩ := hclaim o hm
      exact ⟨_, by rw [h0]; rfl, by simp [hm]⟩
  · intro f fm2 p h2 hin
    rw [hfile f] at h2
    obtain ⟨fm0, h0, rfl⟩ := Option.map_eq_some_iff.mp h2
    rw [hb]
    by_cases hm : f ∈ b.outs
    · simp only [hm, if_true] at hin
      cases hin
      exact ⟨b', by simp, (hb'mem f).mpr hm⟩
    · simp only [hm, if_false] at hin
      obtain ⟨bm, hbm, hf⟩ := inv.prod f fm0 p h0 hin
      exact ⟨bm, by rw [List.getElem?_append_left (List.getElem?_eq_some_iff.mp hbm).1]; exact hbm, hf⟩
  · intro p bm hp
    rcases hnew p bm hp with hp | ⟨_, rfl⟩
    · exact inv.nodup p bm hp
    · exact hb'nd
  · intro i j fi fj hi hj hn
    rw [hfile i] at hi
    rw [hfile j] at hj
    obtain ⟨fi0, hi0, rfl⟩ := Option.map_eq_some_iff.mp hi
    obtain ⟨fj0, hj0, rfl⟩ := Option.map_eq_some_iff.mp hj
    exact inv.names i j fi0 fj0 hi0 hj0 hn

theorem path_inv (l : Loader) (p : Bytes) (l' : Loader) (i : Nat) (inv : GInv l.graph)
    (h : path l p = .ok (l', i)) :
    GInv l'.graph ∧ l.graph.files.length ≤ l'.graph.files.length ∧ i < l'.graph.files.length := by
  unfold path at h
  split at h
  · cases h
  · split at h
    · rename_i c hc
      obtain ⟨h1, _, ⟨extra, h3⟩, h4, _⟩ := idFromCanonical_spec l.graph c inv
      cases h
      exact ⟨h1, by show _ ≤ (idFromCanonical l.graph c).1.files.length; rw [h3]; simp, h4⟩
    · cases h
    · cases h

theorem evalPaths_inv (envs : List Env) (ps : List EvalStr) : ∀ (l l' : Loader) (ids : List Nat),
    GInv l.graph → evalPaths l envs ps = .ok (l', ids) →
    GInv l'.graph ∧ l.graph.files.length ≤ l'.graph.files.length ∧ (∀ i ∈ ids, i < l'.graph.files.length) := by
  induction ps with
  | nil =>
    intro l l' ids inv h
    cases h
    exact ⟨inv, Nat.le_refl _, fun i hi => by simp at hi⟩
  | cons p ps ih =>
    intro l l' ids inv h
    unfold evalPaths at h
    split at h
    · cases h
    · rename_i l1 i hp
      split at h
      · cases h
      · rename_i l2 is hps
        cases h
        obtain ⟨a1, a2, a3⟩ := path_inv l _ l1 i inv hp
        obtain ⟨b1, b2, b3⟩ := ih l1 l' is a1 hps
        refine ⟨b1, by omega, fun j hj => ?_⟩
        rcases List.mem_cons.mp hj with rfl | e
        · omega
        · exact b3 j e

theorem loaderAddBuild_ok {l : Loader} {file : Bytes} {vars : StrMap} {b : PBuild} {l' : Loader}
    (h : loaderAddBuild l file vars b = .ok l') :
    ∃ (l1 l2 : Loader) (ins outs : List Nat) (bm : BuildM) (w : Nat),
      evalPaths l [envOfEval b.vars, envOfStr vars] b.ins = .ok (l1, ins) ∧
      evalPaths l1 [envOfEval b.vars, envOfStr vars] b.outs = .ok (l2, outs) ∧
      bm.ins = ins ∧ bm.outs = outs ∧ addBuild l2.graph bm = .ok (l'.graph, w) := by
  unfold loaderAddBuild at h
  simp only [] at h
  split at h
  · cases h
  · rename_i l1 ins h1
    split at h
    · cases h
    · rename_i l2 outs h2
      split at h
      · cases h
      · split at h
        · cases h
        · split at h
          · cases h
          · split at h
            · cases h
            · rename_i g warned hab
              cases h
              exact ⟨l1, l2, ins, outs, _, warned, h1, h2, rfl, rfl, hab⟩

theorem loaderAddBuild_inv (l : Loader) (file : Bytes) (vars : StrMap) (b : PBuild) (l' : Loader)
    (inv : GInv l.graph) (h : loaderAddBuild l file vars b = .ok l') : GInv l'.graph := by
  obtain ⟨l1, l2, ins, outs, bm, w, h1, h2, rfl, _, hab⟩ := loaderAddBuild_ok h
  obtain ⟨a1, _, a3⟩ := evalPaths_inv _ _ l l1 _ inv h1
  obtain ⟨b1, b2, _⟩ := evalPaths_inv _ _ l1 l2 outs a1 h2
  exact addBuild_inv l2.graph bm _ w b1 (fun i hi => by have := a3 i hi; omega) hab

section
variable {ie : Bool} {fs : Fs} {file : Bytes} {depth : Nat}
  {sub : Loader → Bytes → Bytes → StrMap → Nat → Except LoadErr (Loader × StrMap)}

theorem applyItem_inv
    (hsub : ∀ l name content vars d l' v', GInv l.graph → sub l name content vars d = .ok (l', v') → GInv l'.graph)
    {l : Loader} {vars : StrMap} {it : Item} {l' : Loader} {v' : StrMap} (inv : GInv l.graph)
    (h : applyItem ie fs depth sub file l vars it = .ok (l', v')) : GInv l'.graph := by
  cases it with
  | eof => cases h
  | binding name val => cases h; exact inv
  | stmt st =>
    cases st with
    | rule name rvars => cases h; exact inv
    | pool name d => cases h; exact inv
    | build b =>
      simp only [applyItem] at h
      split at h
      · cases h
      · rename_i l1 hb
        cases h
        exact loaderAddBuild_inv l file vars b _ inv hb
    | default ps =>
      simp only [applyItem] at h
      split at h
      · cases h
      · rename_i l1 ids hp
        cases h
        exact (evalPaths_inv _ _ l l1 ids inv hp).1
    | «include» p =>
      obtain ⟨l1, id, _, _, hp, hs, _⟩ := applyItem_nested_ok.1 h
      exact hsub _ _ _ _ _ _ _ (path_inv l _ l1 id inv hp).1 hs
    | subninja p =>
      obtain ⟨l1, id, _, _, hp, hs, _⟩ := applyItem_nested_ok.2 h
      exact hsub _ _ _ _ _ _ _ (path_inv l _ l1 id inv hp).1 hs

end

end N2V.Load
