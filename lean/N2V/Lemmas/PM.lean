/-
  The parser monad `PM` step by step: how `>>=` and the reads of the scanner's own fields compute,
  what `read`, `peek`, `next`, `back` and `slice` return at a known byte, and the triple `Reads`
  in which the byte-level theorems about the manifest parser are composed.
-/
import N2V.Lemmas.Scanner
import N2V.Model.Parse
namespace N2V.Parse
open N2V N2V.Scanner
open N2V.Depfile (G At)

section
variable {α β : Type} {buf : Array UInt8} {s : Scanner} {c : UInt8} {r : Bytes}

theorem bind_eq {m : PM α} {f : α → PM β} {s1 : Scanner} {a : α} (h : m s = .ok a s1) : (m >>= f) s = f a s1 := by
  simp only [bind, PM.bind, h]

theorem pOfs_bind (f : Nat → PM β) (s : Scanner) : (pOfs >>= f) s = f s.ofs s := rfl

theorem pLine_bind (f : Nat → PM β) (s : Scanner) : (pLine >>= f) s = f s.line s := rfl

theorem pSize_bind (w : SW buf s) (f : Nat → PM β) : (pSize >>= f) s = f buf.size s := by
  rw [← w.hb]; rfl

theorem pRead_step (w : SW buf s) (hc : buf[s.ofs]? = some c) : pRead s = .ok c (s.step c) := by
  unfold pRead liftRes; rw [w.read hc]

theorem pPeek_byte (w : SW buf s) (hc : buf[s.ofs]? = some c) : pPeek s = .ok c s := by
  unfold pPeek; rw [w.peek hc]

theorem pNext_step (w : SW buf s) (hc : buf[s.ofs]? = some c) : pNext s = .ok () (s.step c) := by
  unfold pNext; rw [w.next hc]

theorem pBack_step (g : G buf s) (hc : buf[s.ofs]? = some c) : pBack (s.step c) = .ok () s := by
  unfold pBack; rw [g.back_step hc]

theorem pRead_at (a : At buf s (c :: r)) : pRead s = .ok c (s.step c) := pRead_step a.g.w a.rest.head

theorem pPeek_at (a : At buf s (c :: r)) : pPeek s = .ok c s := pPeek_byte a.g.w a.rest.head

theorem pNext_at (a : At buf s (c :: r)) : pNext s = .ok () (s.step c) := pNext_step a.g.w a.rest.head

theorem pBack_at (a : At buf s (c :: r)) : pBack (s.step c) = .ok () s := pBack_step a.g a.rest.head

theorem pSlice_rest {a b : Nat} {x : Bytes} (w : SW buf s) (h1 : Rest buf a (x ++ r)) (h2 : Rest buf b r)
    (hb : b < buf.size) : pSlice a b s = .ok x s := by
  unfold pSlice; rw [w.slice_rest h1 h2 hb]

end

theorem identChar_ne {c x : UInt8} {d : Bool} (h : isIdentChar c d = true) (hx : isIdentChar x d = false) : c ≠ x :=
  fun e => by rw [e, hx] at h; cases h

theorem isIdentChar_ne (c : UInt8) (d : Bool) (h : isIdentChar c d = true) : c ≠ NUL ∧ c ≠ CR ∧ c ≠ NL :=
  ⟨identChar_ne h (by cases d <;> rfl), identChar_ne h (by cases d <;> rfl), identChar_ne h (by cases d <;> rfl)⟩

variable {α β : Type} {buf : Array UInt8}

/-- Run where the input continues with `x`, `m` returns `v` and stops where it continues with `y`. -/
def Reads (buf : Array UInt8) (m : PM α) (v : α) (x y : Bytes) : Prop :=
  ∀ s, At buf s x → ∃ s', m s = .ok v s' ∧ At buf s' y

theorem Reads.run {m : PM α} {v : α} {x y : Bytes} (h : Reads buf m v x y) {s : Scanner}
    (g : G buf s) (hr : Rest buf s.ofs x) : ∃ s', m s = .ok v s' ∧ G buf s' ∧ Rest buf s'.ofs y :=
  let ⟨s', e, h'⟩ := h s ⟨g, hr⟩
  ⟨s', e, h'.g, h'.rest⟩

theorem Reads.bind {m : PM α} {f : α → PM β} {a : α} {b : β} {x y z : Bytes}
    (h1 : Reads buf m a x y) (h2 : Reads buf (f a) b y z) : Reads buf (m >>= f) b x z := fun s hs =>
  let ⟨s1, e1, hs1⟩ := h1 s hs
  let ⟨s2, e2, hs2⟩ := h2 s1 hs1
  ⟨s2, (bind_eq e1).trans e2, hs2⟩

theorem Reads.pure (a : α) (x : Bytes) : Reads buf (pure a) a x x :=
  fun s hs => ⟨s, rfl, hs⟩

theorem Reads.map {m : PM α} {a : α} {x y : Bytes} (f : α → β)
    (h : Reads buf m a x y) : Reads buf (do let a ← m; Pure.pure (f a)) (f a) x y :=
  h.bind (Reads.pure _ _)

theorem Reads.pure_as {a v : α} (h : a = v) (x : Bytes) :
    Reads buf (Pure.pure a) v x x :=
  h ▸ Reads.pure a x

theorem Reads.peek {f : UInt8 → PM β} {b : β} {c : UInt8} {r x z : Bytes}
    (hx : x = c :: r) (h : Reads buf (f c) b x z) : Reads buf (pPeek >>= f) b x z := fun s hs =>
  let ⟨s', e, hs'⟩ := h s hs
  ⟨s', (bind_eq (pPeek_at (hx ▸ hs))).trans e, hs'⟩

/-- The buffer size is read to serve as fuel; it covers what is left of the input. -/
theorem Reads.size {f : Nat → PM β} {b : β} {x z : Bytes}
    (h : x.length ≤ buf.size + 1 → Reads buf (f buf.size) b x z) : Reads buf (pSize >>= f) b x z := fun s hs => by
  rw [pSize_bind hs.g.w]; exact h hs.fuel s hs

theorem Reads.expect (c : UInt8) (r : Bytes) (h : c ≠ NUL ∧ c ≠ CR) :
    Reads buf (pExpect c) () (c :: r) r := fun s hs => ⟨s.step c, hs.expect, hs.step h⟩

theorem Reads.next (c : UInt8) (r : Bytes) (h : c ≠ NUL ∧ c ≠ CR) :
    Reads buf pNext () (c :: r) r := fun s hs => ⟨s.step c, pNext_at hs, hs.step h⟩

theorem Reads.ite_pos {c : Prop} [Decidable c] {t e : PM α} {v : α} {x y : Bytes}
    (hc : c) (h : Reads buf t v x y) : Reads buf (if c then t else e) v x y := by
  rw [if_pos hc]; exact h

theorem Reads.ite_neg {c : Prop} [Decidable c] {t e : PM α} {v : α} {x y : Bytes}
    (hc : ¬ c) (h : Reads buf e v x y) : Reads buf (if c then t else e) v x y := by
  rw [if_neg hc]; exact h

theorem Reads.ifeq_pos {a : UInt8} {t e : PM α} {v : α} {x y : Bytes}
    (h : Reads buf t v x y) : Reads buf (if a == a then t else e) v x y :=
  Reads.ite_pos (byte_beq_self a) h

theorem Reads.ifeq_neg {a b : UInt8} {t e : PM α} {v : α} {x y : Bytes}
    (hne : a ≠ b) (h : Reads buf e v x y) : Reads buf (if a == b then t else e) v x y :=
  Reads.ite_neg (byte_not_beq hne) h

end N2V.Parse
