/-
  The log's record code (`Model/Db`): a complete record is read back whatever follows it
  (`decodeRec_encode`), and a record read from a byte string is read from every extension of it
  (`decodeRec_append`).  So the code is self-delimiting: no strict prefix of a record decodes
  (`decodeRec_torn`), and a log cut anywhere parses to its complete records (`parse_log_torn`).
-/
import N2V.Model.Db
namespace N2V.Db

@[simp] theorem encLE_length (w n : Nat) : (encLE w n).length = w := by
  induction w generalizing n with
  | zero => rfl
  | succ w ih => rw [encLE, List.length_cons, ih]

theorem decLE_encLE (w n : Nat) (h : n < 256 ^ w) : decLE (encLE w n) = n := by
  induction w generalizing n with
  | zero => simp at h; simp [encLE, decLE, h]
  | succ w ih =>
    simp only [encLE, decLE]
    have h2 : n / 256 < 256 ^ w := by
      rw [Nat.div_lt_iff_lt_mul (by decide)]
      rw [Nat.pow_succ] at h; omega
    rw [ih _ h2]
    have : (UInt8.ofNat (n % 256)).toNat = n % 256 := by
      simp [UInt8.toNat_ofNat']
    rw [this]; omega

@[simp] theorem encIds_length (l : List Nat) : (encIds l).length = 3 * l.length := by
  induction l with
  | nil => rfl
  | cons a l ih =>
    rw [encIds, List.flatMap_cons, List.length_append, encLE_length, ← encIds, ih, List.length_cons, Nat.mul_succ,
      Nat.add_comm]

theorem decIds_append (n : Nat) (bs ext : Bytes) (h : 3 * n ≤ bs.length) :
    decIds n (bs ++ ext) = decIds n bs := by
  induction n generalizing bs with
  | zero => rfl
  | succ n ih =>
    have h : 3 * n + 3 ≤ bs.length := h
    have h3 : 3 ≤ bs.length := Nat.le_trans (Nat.le_add_left ..) h
    rw [decIds, decIds, List.take_append_of_le_length h3, List.drop_append_of_le_length h3,
      ih _ (by rw [List.length_drop]; exact Nat.le_sub_of_add_le h)]

theorem decIds_encIds (l : List Nat) (h : ∀ i ∈ l, i < 2 ^ 24) : decIds l.length (encIds l) = l := by
  induction l with
  | nil => rfl
  | cons a l ih =>
    rw [List.length_cons, decIds, encIds, List.flatMap_cons, ← encIds, List.take_left' (encLE_length 3 a),
      List.drop_left' (encLE_length 3 a), decLE_encLE 3 a (h a (List.mem_cons_self ..)),
      ih fun i hi => h i (List.mem_cons_of_mem _ hi)]

theorem encLE2 (n : Nat) : encLE 2 n = [UInt8.ofNat (n % 256), UInt8.ofNat (n / 256 % 256)] := rfl

/-- What `decodeRec` reads from the layout of a path record: a length, then that many bytes. -/
theorem decodeRec_path (name rest : Bytes) (h : name.length < 0x8000) :
    decodeRec (encLE 2 name.length ++ (name ++ rest)) = some (.path name, rest) := by
  rw [encLE2, List.cons_append, List.cons_append, List.nil_append, decodeRec]
  dsimp only
  rw [← encLE2, decLE_encLE 2 _ (Nat.lt_trans h (by decide)), if_pos h,
    if_neg (by rw [List.length_append]; exact Nat.not_lt.mpr (Nat.le_add_right ..)),
    List.take_left' rfl, List.drop_left' rfl]

/-- What `decodeRec` reads from the layout of a build record: the flagged count `n`, `n` ids, a
    count `m`, `m` ids, eight bytes. -/
theorem decodeRec_build {n m : Nat} {o d h8 : Bytes} (rest : Bytes) (hn : n < 0x8000) (hm : m < 0x10000)
    (ho : o.length = 3 * n) (hd : d.length = 3 * m) (h8l : h8.length = 8) :
    decodeRec (encLE 2 (n + 0x8000) ++ (o ++ (encLE 2 m ++ (d ++ (h8 ++ rest))))) =
      some (.build (decIds n o) (decIds m d) (decLE h8), rest) := by
  rw [encLE2, List.cons_append, List.cons_append, List.nil_append, decodeRec]
  dsimp only
  rw [← encLE2, decLE_encLE 2 _ (by omega), if_neg (Nat.not_lt.mpr (Nat.le_add_left ..)), Nat.add_sub_cancel,
    if_neg (by simp [ho]), List.drop_left' ho, List.take_left' (encLE_length 2 m), decLE_encLE 2 m hm,
    List.drop_left' (encLE_length 2 m), if_neg (by simp [hd, h8l]), decIds_append n o _ (Nat.le_of_eq ho.symm),
    decIds_append m d _ (Nat.le_of_eq hd.symm), List.drop_left' hd, List.take_left' h8l,
    ← List.append_assoc, List.drop_left' (by rw [List.length_append, hd, h8l])]

theorem decodeRec_encode (r : Rec) (rest : Bytes) (hf : r.fits) :
    decodeRec (encode r ++ rest) = some (r, rest) := by
  cases r with
  | path name => rw [encode, List.append_assoc]; exact decodeRec_path name rest hf
  | build outs deps hash =>
    obtain ⟨ho, hd, hh, hoi, hdi⟩ := hf
    rw [encode]
    simp only [List.append_assoc]
    rw [decodeRec_build rest ho hd (encIds_length outs) (encIds_length deps) (encLE_length 8 hash),
      decIds_encIds outs hoi, decIds_encIds deps hdi, decLE_encLE 8 hash hh]

theorem not_length_append_lt {n : Nat} {bs : Bytes} (h : ¬ bs.length < n) (ext : Bytes) :
    ¬ (bs ++ ext).length < n := fun h' =>
  h (Nat.lt_of_le_of_lt (by rw [List.length_append]; exact Nat.le_add_right ..) h')

theorem decodeRec_append {bs : Bytes} {r : Rec} {rest : Bytes} (h : decodeRec bs = some (r, rest))
    (ext : Bytes) : decodeRec (bs ++ ext) = some (r, rest ++ ext) := by
  have cut : ∀ {a b : Nat} {l : Bytes}, ¬ l.length < a + b → a ≤ l.length ∧ b ≤ (l.drop a).length :=
    fun h => ⟨Nat.le_trans (Nat.le_add_right ..) (Nat.le_of_not_lt h),
      by rw [List.length_drop]; exact Nat.le_sub_of_add_le' (Nat.le_of_not_lt h)⟩
  rcases bs with _ | ⟨b0, _ | ⟨b1, r1⟩⟩
  · cases h
  · cases h
  rw [decodeRec] at h
  rw [List.cons_append, List.cons_append, decodeRec]
  dsimp only at h ⊢
  by_cases hp : decLE [b0, b1] < 0x8000
  · rw [if_pos hp] at h ⊢
    by_cases hl : r1.length < decLE [b0, b1]
    · rw [if_pos hl] at h; cases h
    · rw [if_neg hl] at h
      cases h
      rw [if_neg (not_length_append_lt hl ext), List.take_append_of_le_length (Nat.le_of_not_lt hl),
        List.drop_append_of_le_length (Nat.le_of_not_lt hl)]
  · rw [if_neg hp] at h ⊢
    generalize decLE [b0, b1] - 0x8000 = n at h ⊢
    by_cases h1 : r1.length < 3 * n + 2
    · rw [if_pos h1] at h; cases h
    rw [if_neg h1] at h
    obtain ⟨l1, l2⟩ := cut h1
    rw [if_neg (not_length_append_lt h1 ext), List.drop_append_of_le_length l1,
      List.take_append_of_le_length l2, List.drop_append_of_le_length l2, decIds_append n r1 ext l1]
    generalize decLE ((r1.drop (3 * n)).take 2) = m at h ⊢
    generalize (r1.drop (3 * n)).drop 2 = r3 at h ⊢
    by_cases h2 : r3.length < 3 * m + 8
    · rw [if_pos h2] at h; cases h
    rw [if_neg h2] at h
    cases h
    obtain ⟨l3, l4⟩ := cut h2
    rw [if_neg (not_length_append_lt h2 ext), decIds_append m r3 ext l3, List.drop_append_of_le_length l3,
      List.take_append_of_le_length l4, List.drop_append_of_le_length (Nat.le_of_not_lt h2)]

theorem decodeRec_torn (r : Rec) (hf : r.fits) (k : Nat) (hk : k < (encode r).length) :
    decodeRec ((encode r).take k) = none := by
  cases h : decodeRec ((encode r).take k) with
  | none => rfl
  | some p =>
    -- the record read from the prefix would be read from the whole encoding too, with what was
    -- cut off left over behind it; but the whole encoding reads as `r` with nothing left over
    have h1 := decodeRec_append h ((encode r).drop k)
    have h2 := decodeRec_encode r [] hf
    rw [List.take_append_drop] at h1
    rw [List.append_nil, h1] at h2
    have h3 : p.2 ++ (encode r).drop k = [] := congrArg Prod.snd (Option.some.inj h2)
    exact absurd (List.drop_eq_nil_iff.mp (List.append_eq_nil_iff.mp h3).2) (Nat.not_le.mpr hk)

theorem encode_length (r : Rec) : (encode r).length =
    match r with
    | .path name => 2 + name.length
    | .build outs deps _ => 2 + 3 * outs.length + 2 + 3 * deps.length + 8 := by
  cases r <;> simp only [encode, List.length_append, encLE_length, encIds_length]

theorem encode_length_pos (r : Rec) : 2 ≤ (encode r).length := by
  rw [encode_length]
  cases r with
  | path name => exact Nat.le_add_right ..
  | build outs deps hash => dsimp only; omega

theorem length_le_flatMap (rs : List Rec) : rs.length ≤ (rs.flatMap encode).length := by
  induction rs with
  | nil => exact Nat.le_refl 0
  | cons r rs ih =>
    have := encode_length_pos r
    rw [List.flatMap_cons, List.length_append, List.length_cons]; omega

theorem decodeAll_log (rs : List Rec) (hfit : ∀ r ∈ rs, r.fits) (torn : Bytes)
    (htorn : decodeRec torn = none) (fuel : Nat) (hfuel : rs.length < fuel) :
    decodeAll fuel (rs.flatMap encode ++ torn) = (rs, (rs.flatMap encode).length) := by
  induction rs generalizing fuel with
  | nil =>
    cases fuel with
    | zero => cases hfuel
    | succ fuel => rw [List.flatMap_nil, List.nil_append, decodeAll, htorn]; rfl
  | cons r rs ih =>
    cases fuel with
    | zero => cases hfuel
    | succ fuel =>
      rw [List.flatMap_cons, List.append_assoc, decodeAll, decodeRec_encode r _ (hfit r (List.mem_cons_self ..))]
      dsimp only
      rw [ih (fun x hx => hfit x (List.mem_cons_of_mem _ hx)) fuel (Nat.lt_of_succ_lt_succ hfuel),
        List.length_append, List.length_append, List.length_append, Nat.add_sub_cancel]

theorem parse_signature (x : Bytes) :
    parse (signature ++ x) =
      .ok (decodeAll ((signature ++ x).length + 1) x).1 (8 + (decodeAll ((signature ++ x).length + 1) x).2) := by
  have hs : signature.length = 8 := rfl
  have h8 : ¬ signature.length < 8 := by decide
  have h4 : 4 ≤ signature.length := by decide
  have h4' : 4 ≤ (signature.drop 4).length := by decide
  rw [parse, if_neg (not_length_append_lt h8 x), List.take_append_of_le_length h4, if_neg (fun h => h rfl),
    List.drop_append_of_le_length h4, List.take_append_of_le_length h4', if_neg (fun h => h (by decide)),
    List.drop_left' hs]

/-- C07 core: a log made of complete records followed by a torn tail parses to exactly the
    complete records, and reports their length as the intact prefix. -/
theorem parse_log_torn (rs : List Rec) (hfit : ∀ r ∈ rs, r.fits) (torn : Bytes)
    (htorn : decodeRec torn = none) :
    parse (encodeLog rs ++ torn) = .ok rs (encodeLog rs).length := by
  have hfuel : rs.length < (signature ++ (rs.flatMap encode ++ torn)).length + 1 := by
    have := length_le_flatMap rs
    rw [List.length_append, List.length_append]; omega
  rw [encodeLog, List.append_assoc, parse_signature, decodeAll_log rs hfit torn htorn _ hfuel, List.length_append]
  rfl

end N2V.Db
