/-
  `EvalString::evaluate` (eval.rs): expansion distributes over the parts, a literal expands to
  itself, and a reference expands to the value the first scope that knows the name gives it,
  expanded in the scopes after that one.  `SmallMap` lookup after insert.
-/
import N2V.Model.Eval
namespace N2V.Eval

theorem evalFuel_append (fuel : Nat) (envs : List Env) (a b : EvalStr) :
    evalFuel fuel envs (a ++ b) = evalFuel fuel envs a ++ evalFuel fuel envs b := by
  cases fuel <;> simp [evalFuel, List.flatMap_append]

theorem evaluate_append (envs : List Env) (a b : EvalStr) :
    evaluate envs (a ++ b) = evaluate envs a ++ evaluate envs b := evalFuel_append _ _ _ _

@[simp] theorem evaluate_nil (envs : List Env) : evaluate envs [] = [] := by
  unfold evaluate; cases envs.length <;> rfl

@[simp] theorem evaluate_lit_cons (envs : List Env) (b : Bytes) (s : EvalStr) :
    evaluate envs (.lit b :: s) = b ++ evaluate envs s := by
  unfold evaluate; cases envs.length <;> simp [evalFuel]

theorem evaluate_lit (envs : List Env) (b : Bytes) : evaluate envs [.lit b] = b := by simp

theorem findEnv_length (envs : List Env) (n : Bytes) (v : EvalStr) (rest : List Env)
    (h : findEnv envs n = some (v, rest)) : rest.length < envs.length := by
  induction envs with
  | nil => cases h
  | cons e es ih =>
    unfold findEnv at h
    split at h
    · cases h; simp
    · have := ih h; simp; omega

theorem evalFuel_nil (k : Nat) (t : EvalStr) : evalFuel k [] t = evalFuel 0 [] t := by
  cases k <;> rfl

/-- Fuel beyond the number of scopes is never used: each nested expansion continues with a
    strictly shorter list of scopes. -/
theorem evalFuel_indep (j : Nat) : ∀ (k : Nat) (es : List Env) (t : EvalStr),
    es.length ≤ j → es.length ≤ k → evalFuel j es t = evalFuel k es t := by
  induction j with
  | zero =>
    intro k es t h _
    obtain rfl : es = [] := List.eq_nil_of_length_eq_zero (by omega)
    exact (evalFuel_nil k t).symm
  | succ j ih =>
    intro k es t h1 h2
    cases k with
    | zero =>
      obtain rfl : es = [] := List.eq_nil_of_length_eq_zero (by omega)
      exact evalFuel_nil _ t
    | succ k =>
      simp only [evalFuel]
      congr 1; funext p
      cases p with
      | lit b => rfl
      | var n =>
        simp only
        cases hf : findEnv es n with
        | none => rfl
        | some vr =>
          have := findEnv_length es n vr.1 vr.2 hf
          exact ih k vr.2 vr.1 (by omega) (by omega)

theorem evaluate_var (envs : List Env) (n : Bytes) :
    evaluate envs [.var n] =
      match findEnv envs n with
      | none => []
      | some (v, rest) => evaluate rest v := by
  unfold evaluate
  cases envs with
  | nil => rfl
  | cons e es =>
    simp only [List.length_cons, evalFuel, List.flatMap_cons, List.flatMap_nil, List.append_nil]
    cases hf : findEnv (e :: es) n with
    | none => rfl
    | some vr =>
      have := findEnv_length _ n vr.1 vr.2 hf
      exact evalFuel_indep _ _ _ _ (by simp at this; omega) (Nat.le_refl _)

theorem lookup_cons {β} (k' : Bytes) (v' : β) (m : List (Bytes × β)) (k : Bytes) :
    lookup ((k', v') :: m) k = if k' = k then some v' else lookup m k := by
  unfold lookup
  rw [List.find?_cons]
  by_cases h : k' = k
  · rw [if_pos h, beq_iff_eq.mpr h]; rfl
  · rw [if_neg h, beq_eq_false_iff_ne.mpr h]

theorem lookup_insert {β} (m : List (Bytes × β)) (k k2 : Bytes) (v : β) :
    lookup (insert m k v) k2 = if k = k2 then some v else lookup m k2 := by
  induction m with
  | nil => exact lookup_cons k v [] k2
  | cons p rest ih =>
    obtain ⟨k', v'⟩ := p
    unfold insert
    split
    · rename_i he; subst he
      rw [lookup_cons, lookup_cons]
      split <;> rfl
    · rename_i hne
      rw [lookup_cons, lookup_cons, ih]
      by_cases h1 : k' = k2
      · subst h1; rw [if_pos rfl, if_pos rfl, if_neg (Ne.symm hne)]
      · rw [if_neg h1, if_neg h1]

theorem lookup_insert_same {β} (m : List (Bytes × β)) (k : Bytes) (v : β) :
    lookup (insert m k v) k = some v := by rw [lookup_insert, if_pos rfl]

theorem lookup_insert_other {β} (m : List (Bytes × β)) (k k2 : Bytes) (v : β) (h : k2 ≠ k) :
    lookup (insert m k v) k2 = lookup m k2 := by rw [lookup_insert, if_neg (Ne.symm h)]

end N2V.Eval
