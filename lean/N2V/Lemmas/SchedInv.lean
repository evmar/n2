/-
  The scheduler invariant and its preservation by `set`.
-/
import N2V.Lemmas.SchedBasic
namespace N2V.Sched

/-- "past the gate": the build's ordering inputs were established to be in place. -/
def gated (x : St) : Prop := x = .ready ∨ x = .queued ∨ x = .running ∨ x = .done ∨ x = .failed

/-- The part of the invariant that does not mention the runner: state/queue agreement,
    counters, and the gate. -/
structure InvCore (g : Graph) (s : S) : Prop where
  valid : ∀ b, s.st b ≠ .unknown → b < g.nBuilds
  readySt : ∀ id ∈ s.ready, s.st id = .ready
  readyNodup : s.ready.Nodup
  poolNames : (s.pools.map (·.name)).Nodup
  queuedSt : ∀ p ∈ s.pools, ∀ id ∈ p.queued, s.st id = .queued ∧ (g.build id).pool = p.name
  queuedNodup : ∀ p ∈ s.pools, p.queued.Nodup
  poolRunning : ∀ p ∈ s.pools,
    p.running = cnt g.nBuilds (fun b => s.st b == .running && (g.build b).pool == p.name)
  counts : ∀ x, x ≠ .unknown →
    s.counts.get x = cnt g.nBuilds (fun b => s.st b == x && !(g.build b).phony)
  pending : s.pending = cnt g.nBuilds (fun b => active (s.st b))
  ordered : ∀ b, gated (s.st b) →
    ∀ f ∈ (g.build b).ordering, ∀ p, g.producer f = some p → s.st p = .done

structure Inv (g : Graph) (par : Nat) (s : S) : Prop extends InvCore g s where
  running : s.running = cnt g.nBuilds (fun b => s.st b == .running)
  parBound : s.running ≤ par
  depthBound : ∀ p ∈ s.pools, p.depth > 0 → p.running ≤ p.depth

theorem Counts.get_add (c : Counts) (x y : St) (d : Int) (hx : x ≠ .unknown) :
    (c.add y d).get x = c.get x + (if y = x then d else 0) := by
  cases y <;> cases x <;> first | contradiction | simp [Counts.add, Counts.get]

theorem cnt_upd (n : Nat) (st : Nat → St) (bid : Nat) (new : St) (hid : bid < n)
    (P : St → Nat → Bool) :
    (cnt n (fun b => P (upd st bid new b) b) : Int)
      = cnt n (fun b => P (st b) b) - (if P (st bid) bid then 1 else 0) + (if P new bid then 1 else 0) := by
  have := cnt_update n (fun b => P (st b) b) (fun b => P (upd st bid new b) b) bid hid
    (fun b hb => by simp [upd_ne hb])
  simpa using this

/-- The builds in state `x` that satisfy `c`: the shape of every counter `set` maintains. -/
theorem cnt_st_upd (n : Nat) (st : Nat → St) {bid : Nat} (new : St) (hid : bid < n)
    (x : St) (c : Nat → Bool) :
    (cnt n (fun b => upd st bid new b == x && c b) : Int)
      = cnt n (fun b => st b == x && c b) +
        (if c bid then (if st bid = x then -1 else 0) + (if new = x then 1 else 0) else 0) := by
  have := cnt_upd n st bid new hid (fun y b => y == x && c b)
  generalize c bid = cb at this ⊢
  cases cb <;> by_cases h1 : st bid = x <;> by_cases h2 : new = x <;> simp [h1, h2] at this ⊢ <;> omega

/-- `pending` moves as the number of active builds does, for the transitions n2 makes. -/
theorem active_delta {prev new : St} (hnew : new ≠ .unknown) (hprev : prev ≠ .done ∧ prev ≠ .failed) :
    ((if active new then 1 else 0 : Int) - (if active prev then 1 else 0)) =
      (if prev = .unknown then 1 else 0) - (if new = .done ∨ new = .failed then 1 else 0) := by
  obtain ⟨h1, h2⟩ := hprev
  cases prev <;> cases new <;> first | contradiction | rfl

def bump (name : Bytes) (d : Int) (p : Pool) : Pool :=
  if p.name = name then { p with running := p.running + d } else p

@[simp] theorem bump_name (n : Bytes) (d : Int) (p : Pool) : (bump n d p).name = p.name := by
  unfold bump; split <;> rfl
@[simp] theorem bump_queued (n : Bytes) (d : Int) (p : Pool) : (bump n d p).queued = p.queued := by
  unfold bump; split <;> rfl
@[simp] theorem bump_depth (n : Bytes) (d : Int) (p : Pool) : (bump n d p).depth = p.depth := by
  unfold bump; split <;> rfl
theorem bump_running (n : Bytes) (d : Int) (p : Pool) :
    (bump n d p).running = p.running + (if p.name = n then d else 0) := by
  unfold bump; split <;> simp
theorem bump_zero (n : Bytes) (p : Pool) : bump n 0 p = p := by
  unfold bump; split <;> simp
theorem bump_bump (n : Bytes) (d e : Int) (p : Pool) : bump n e (bump n d p) = bump n (d + e) p := by
  unfold bump; split <;> simp [*]; omega

theorem map_bump_names (n : Bytes) (d : Int) (ps : List Pool) :
    (ps.map (bump n d)).map (·.name) = ps.map (·.name) :=
  map_name_map (bump_name n d) ps

theorem map_bump_zero (n : Bytes) (ps : List Pool) : ps.map (bump n 0) = ps :=
  (List.map_congr_left fun p _ => bump_zero n p).trans (List.map_id' ps)

def runDelta (prev new : St) : Int :=
  (if prev = .running then -1 else 0) + (if new = .running then 1 else 0)

theorem runDelta_zero {a b : St} (ha : a ≠ .running) (hb : b ≠ .running) : runDelta a b = 0 := by
  simp [runDelta, ha, hb]

variable {g : Graph} {par : Nat} {s s' : S} {bid : Nat} {new : St}

theorem modPool_bump {ps ps' : List Pool} {name : Bytes} {f : Pool → Pool} (d : Int)
    (hf : ∀ p, f p = { p with running := p.running + d }) (hnd : (ps.map (·.name)).Nodup)
    (h : modPool ps name f = some ps') : ps' = ps.map (bump name d) := by
  rw [modPool_eq_map _ _ _ _ hnd h]
  exact List.map_congr_left fun p _ => by rw [bump, hf]

theorem set_pools (h : set g s bid new = .ok s') (hnd : (s.pools.map (·.name)).Nodup) :
    s'.pools = s.pools.map (bump (g.build bid).pool (runDelta (s.st bid) new)) := by
  obtain ⟨ps1, h1, h2⟩ := set_modPool h
  have e1 : ps1 = s.pools.map (bump (g.build bid).pool (if s.st bid = .running then -1 else 0)) := by
    by_cases hr : s.st bid = .running
    · rw [if_pos hr] at h1 ⊢; exact modPool_bump _ (fun _ => rfl) hnd h1
    · rw [if_neg hr] at h1 ⊢; cases h1; rw [map_bump_zero]
  have hnd1 : (ps1.map (·.name)).Nodup := by
    rw [e1, map_bump_names]; exact hnd
  have e2 : s'.pools = ps1.map (bump (g.build bid).pool (if new = .running then 1 else 0)) := by
    by_cases hr : new = .running
    · rw [if_pos hr] at h2 ⊢; exact modPool_bump _ (fun _ => rfl) hnd1 h2
    · rw [if_neg hr] at h2 ⊢; cases h2; rw [map_bump_zero]
  rw [e2, e1, List.map_map]
  exact List.map_congr_left fun p _ => bump_bump _ _ _ p

theorem mem_set_pools (h : set g s bid new = .ok s') (hnd : (s.pools.map (·.name)).Nodup) {p' : Pool}
    (hp' : p' ∈ s'.pools) : ∃ p ∈ s.pools, p' = bump (g.build bid).pool (runDelta (s.st bid) new) p := by
  rw [set_pools h hnd, List.mem_map] at hp'
  obtain ⟨p, hp, rfl⟩ := hp'
  exact ⟨p, hp, rfl⟩

/-! Each clause of the invariant across one `set`, under the hypotheses that clause needs. -/

theorem set_valid (inv : InvCore g s) (h : set g s bid new = .ok s') (hid : bid < g.nBuilds) :
    ∀ b, s'.st b ≠ .unknown → b < g.nBuilds := by
  intro b hb
  by_cases e : b = bid
  · exact e ▸ hid
  · exact inv.valid b (set_st_ne h e ▸ hb)

theorem set_poolNames (inv : InvCore g s) (h : set g s bid new = .ok s') :
    (s'.pools.map (·.name)).Nodup := by
  rw [set_pools h inv.poolNames, map_bump_names]; exact inv.poolNames

theorem set_poolRunning (inv : InvCore g s) (h : set g s bid new = .ok s') (hid : bid < g.nBuilds) :
    ∀ p ∈ s'.pools,
      p.running = cnt g.nBuilds (fun b => s'.st b == .running && (g.build b).pool == p.name) := by
  intro p' hp'
  obtain ⟨p, hp, rfl⟩ := mem_set_pools h inv.poolNames hp'
  rw [bump_running, bump_name, set_st h, cnt_st_upd g.nBuilds s.st new hid, inv.poolRunning p hp, runDelta]
  by_cases hn : p.name = (g.build bid).pool
  · simp [hn]
  · simp [hn, Ne.symm hn]

theorem set_counts_exact (inv : InvCore g s) (h : set g s bid new = .ok s') (hid : bid < g.nBuilds) :
    ∀ x, x ≠ .unknown →
      s'.counts.get x = cnt g.nBuilds (fun b => s'.st b == x && !(g.build b).phony) := by
  intro x hx
  rw [set_counts h, set_st h, cnt_st_upd g.nBuilds s.st new hid, ← inv.counts x hx]
  cases (g.build bid).phony
  · rw [if_neg (by simp), if_pos (show (!false) = true from rfl), Counts.get_add _ _ _ _ hx, Counts.get_add _ _ _ _ hx]; omega
  · rw [if_pos rfl, if_neg (by simp)]; omega

theorem set_pending_exact (inv : InvCore g s) (h : set g s bid new = .ok s') (hid : bid < g.nBuilds)
    (hnew : new ≠ .unknown) (hprev : s.st bid ≠ .done ∧ s.st bid ≠ .failed) :
    s'.pending = cnt g.nBuilds (fun b => active (s'.st b)) := by
  have hc := cnt_upd g.nBuilds s.st bid new hid (fun y _ => active y)
  have hd := active_delta hnew hprev
  rw [set_pending h, set_st h, inv.pending]
  omega

theorem set_readyOk (inv : InvCore g s) (h : set g s bid new = .ok s')
    (hready : s.st bid = .ready → bid ∉ s.ready) :
    (∀ r ∈ s'.ready, s'.st r = .ready) ∧ s'.ready.Nodup := by
  have hbid : bid ∉ s.ready := fun hm => hready (inv.readySt bid hm) hm
  have old : ∀ r ∈ s.ready, s'.st r = .ready := fun r hr => by
    rw [set_st_ne h (fun e => hbid (e ▸ hr))]; exact inv.readySt r hr
  rw [set_ready h]
  by_cases hn : new = .ready
  · rw [if_pos hn]
    refine ⟨fun r hr => ?_, List.nodup_append.mpr ⟨inv.readyNodup, by simp, ?_⟩⟩
    · rcases List.mem_append.mp hr with hr | hr
      · exact old r hr
      · rw [List.mem_singleton.mp hr, set_st_self h, hn]
    · intro a ha b hb e
      rw [List.mem_singleton.mp hb] at e
      exact hbid (e ▸ ha)
  · rw [if_neg hn]; exact ⟨old, inv.readyNodup⟩

theorem set_queuedOk (inv : InvCore g s) (h : set g s bid new = .ok s')
    (hqueued : s.st bid = .queued → ∀ p ∈ s.pools, bid ∉ p.queued) :
    (∀ p ∈ s'.pools, ∀ q ∈ p.queued, s'.st q = .queued ∧ (g.build q).pool = p.name) ∧
    (∀ p ∈ s'.pools, p.queued.Nodup) := by
  refine ⟨fun p' hp' q hq => ?_, fun p' hp' => ?_⟩ <;>
    obtain ⟨p, hp, rfl⟩ := mem_set_pools h inv.poolNames hp'
  · rw [bump_queued] at hq
    have hq0 := inv.queuedSt p hp q hq
    rw [bump_name, set_st_ne h (fun e => hqueued (e ▸ hq0.1) p hp (e ▸ hq))]
    exact hq0
  · rw [bump_queued]; exact inv.queuedNodup p hp

theorem set_ordered (inv : InvCore g s) (h : set g s bid new = .ok s') (hprev : s.st bid ≠ .done)
    (hord : gated new → ∀ f ∈ (g.build bid).ordering, ∀ p, g.producer f = some p → s.st p = .done) :
    ∀ b, gated (s'.st b) →
      ∀ f ∈ (g.build b).ordering, ∀ p, g.producer f = some p → s'.st p = .done := by
  intro b hg f hf p hp
  have hd : s.st p = .done := by
    by_cases e : b = bid
    · rw [e, set_st_self h] at hg; exact hord hg f (e ▸ hf) p hp
    · rw [set_st_ne h e] at hg; exact inv.ordered b hg f hf p hp
  rw [set_st_ne h (fun e => hprev (e ▸ hd))]; exact hd

theorem set_core (inv : InvCore g s) (h : set g s bid new = .ok s') (hid : bid < g.nBuilds)
    (hnew : new ≠ .unknown) (hprev : s.st bid ≠ .done ∧ s.st bid ≠ .failed)
    (hready : s.st bid = .ready → bid ∉ s.ready)
    (hqueued : s.st bid = .queued → ∀ p ∈ s.pools, bid ∉ p.queued)
    (hord : gated new → ∀ f ∈ (g.build bid).ordering, ∀ p, g.producer f = some p → s.st p = .done) :
    InvCore g s' :=
  { valid := set_valid inv h hid, readySt := (set_readyOk inv h hready).1,
    readyNodup := (set_readyOk inv h hready).2, poolNames := set_poolNames inv h,
    queuedSt := (set_queuedOk inv h hqueued).1, queuedNodup := (set_queuedOk inv h hqueued).2,
    poolRunning := set_poolRunning inv h hid, counts := set_counts_exact inv h hid,
    pending := set_pending_exact inv h hid hnew hprev, ordered := set_ordered inv h hprev.1 hord }

theorem cnt_running_set (h : set g s bid new = .ok s') (hid : bid < g.nBuilds) :
    (cnt g.nBuilds (fun b => s'.st b == .running) : Int)
      = cnt g.nBuilds (fun b => s.st b == .running) + runDelta (s.st bid) new := by
  have := cnt_st_upd g.nBuilds s.st new hid .running (fun _ => true)
  simp only [Bool.and_true, if_true] at this
  rw [set_st h, this, runDelta]

theorem set_depthBound (inv : InvCore g s) (h : set g s bid new = .ok s')
    (hd : ∀ p ∈ s.pools, p.depth > 0 →
      p.running + (if p.name = (g.build bid).pool then runDelta (s.st bid) new else 0) ≤ p.depth) :
    ∀ p ∈ s'.pools, p.depth > 0 → p.running ≤ p.depth := by
  intro p' hp'
  obtain ⟨p, hp, rfl⟩ := mem_set_pools h inv.poolNames hp'
  rw [bump_depth, bump_running]
  exact hd p hp

/-- A `set` that neither starts nor finishes a command keeps the whole invariant. -/
theorem set_inv (inv : Inv g par s) (h : set g s bid new = .ok s') (hid : bid < g.nBuilds)
    (hnew : new ≠ .unknown) (hprev : s.st bid ≠ .done ∧ s.st bid ≠ .failed)
    (hready : s.st bid = .ready → bid ∉ s.ready)
    (hqueued : s.st bid = .queued → ∀ p ∈ s.pools, bid ∉ p.queued)
    (hord : gated new → ∀ f ∈ (g.build bid).ordering, ∀ p, g.producer f = some p → s.st p = .done)
    (h0 : runDelta (s.st bid) new = 0) : Inv g par s' :=
  { set_core inv.toInvCore h hid hnew hprev hready hqueued hord with
    running := by have := cnt_running_set h hid; rw [set_running h, inv.running]; omega
    parBound := set_running h ▸ inv.parBound
    depthBound := set_depthBound inv.toInvCore h fun p hp hd => by
      rw [h0]; simpa using inv.depthBound p hp hd }

end N2V.Sched
