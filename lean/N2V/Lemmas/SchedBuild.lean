/-
  Whole invocations (`run::build`: fresh `Work`, manifest phase, target resolution, second
  `Work::run`): the scheduler invariant where they report success, the trace specification and
  the accounting of tasks whatever they report.
-/
import N2V.Lemmas.SchedMoves
import N2V.Lemmas.SchedAcct
namespace N2V.Run
open N2V N2V.Sched

variable {E : Type} {g : Graph} {a : Args} {c : Choices E}

theorem Runs.inv (gok : GraphOK g) {tb n : Nat} {s : S} {e : E} {r : S × E × Outcome}
    (h : Runs g a c tb s e r) (inv : Inv g a.par s) (hr : r.2.2 = .done n ∨ r.2.2 = .reload n) :
    Inv g a.par r.1 := by
  obtain ⟨s', e', hm, hst⟩ := h
  rw [(hst.ok hr).1]
  exact hm.inv gok inv

/-- **A whole `run::build`** (up to a reload): whenever it reports success — or stops to re-read
    a regenerated manifest — the scheduler state satisfies the whole invariant. -/
theorem build_inv {E : Type} {g : Graph} (gok : GraphOK g) (a : Args) (c : Choices E) (e : E) (n : Nat)
    (h : (build g a c e).2.2 = .done n ∨ (build g a c e).2.2 = .reload n) :
    Inv g a.par (build g a c e).1 :=
  (build_runs g a c e).inv gok (fresh_inv g a) h

theorem buildReloaded_inv {E : Type} {g : Graph} (gok : GraphOK g) (a : Args) (c : Choices E) (e : E)
    (n0 n : Nat) (h : (buildReloaded g a c e n0).2.2 = .done n) :
    Inv g a.par (buildReloaded g a c e n0).1 :=
  (buildReloaded_runs g a c e n0).inv gok (fresh_inv g a) (.inl h)

def shapeOf (a : Args) : List (Bytes × Nat) := poolShape (initPools a.pools)

theorem fresh_tinv (g : Graph) (a : Args) : TInv g a.par (shapeOf a) (fresh a) :=
  ⟨rfl, rfl, rfl⟩

theorem Runs.tinv (gok : GraphOK g) {shape : List (Bytes × Nat)} {tb : Nat} {s : S} {e : E}
    {r : S × E × Outcome} (h : Runs g a c tb s e r) (inv : Inv g a.par s) (ti : TInv g a.par shape s) :
    TInv g a.par shape r.1 := by
  obtain ⟨s', e', hm, hst⟩ := h
  have i' := hm.inv gok inv
  have t' : TInv g a.par shape s' :=
    hm.induct gok (P := fun s _ => TInv g a.par shape s) inv ti
      (fun _ i t _ h => (want_inv gok _ _ _ i h).tinv _ t) (fun i t st => st.tinv i t)
  cases hst with
  | wantErr _ _ h => exact (want_inv_err gok _ _ _ _ i' h).tinv _ t'
  | unknown | panic => exact t'
  | reload h | done h | other h => exact h.tinv i' t'

/-- **Every trace of `run::build`** (up to a reload) satisfies the trace specification: for every
    graph whose producers are builds, every argument vector, every behaviour of the environment
    and every outcome. -/
theorem build_tinv {E : Type} {g : Graph} (gok : GraphOK g) (a : Args) (c : Choices E) (e : E) :
    TInv g a.par (shapeOf a) (build g a c e).1 :=
  (build_runs g a c e).tinv gok (fresh_inv g a) (fresh_tinv g a)

theorem buildReloaded_tinv {E : Type} {g : Graph} (gok : GraphOK g) (a : Args) (c : Choices E) (e : E)
    (n0 : Nat) : TInv g a.par (shapeOf a) (buildReloaded g a c e n0).1 :=
  (buildReloaded_runs g a c e n0).tinv gok (fresh_inv g a) (fresh_tinv g a)

theorem fresh_ainv (a : Args) (hk : a.failuresLeft ≠ some 0) : AInv a.failuresLeft (fresh a) := by
  refine ⟨rfl, rfl, ?_, rfl, rfl⟩
  cases hf : a.failuresLeft with
  | none => simp only []; show a.failuresLeft = none; exact hf
  | some k0 =>
    simp only []
    refine ⟨?_, ?_⟩
    · show a.failuresLeft = some (k0 - 0); rw [hf]; rfl
    · show 0 < k0
      rw [hf] at hk
      cases k0 with
      | zero => exact absurd rfl hk
      | succ n => omega

theorem Runs.acct (gok : GraphOK g) {k : Option Nat} {tb : Nat} {s : S} {e : E} {r : S × E × Outcome}
    (h : Runs g a c tb s e r) (inv : Inv g a.par s) (ai : AInv k s) :
    budgetTrace k r.1.trace = true ∧
    (∀ n, r.2.2 = .done n → n = tb + succs (sf r.1.trace) ∧ fails (sf r.1.trace) = 0 ∧
      intr (sf r.1.trace) = false) ∧
    (∀ n, r.2.2 = .reload n → n = succs (sf r.1.trace) ∧ n ≠ 0) := by
  obtain ⟨s', e', hm, hst⟩ := h
  have i' := hm.inv gok inv
  have a' : AInv k s' :=
    hm.induct gok (P := fun s _ => AInv k s) inv ai
      (fun _ i x _ h => x.of_frame (want_inv gok _ _ _ i h).frm) (fun _ x st => st.ainv x)
  cases hst with
  | wantErr _ _ h =>
    exact ⟨(a'.of_frame (want_inv_err gok _ _ _ _ i' h).frm).bt, fun _ hn => (by cases hn), fun _ hn => (by cases hn)⟩
  | unknown | panic => exact ⟨a'.bt, fun _ hn => (by cases hn), fun _ hn => (by cases hn)⟩
  | reload h hne =>
    obtain ⟨rfl, rfl, -⟩ := h.ok_true
    exact ⟨a'.bt, fun _ hn => (by cases hn), fun _ hn => (by cases hn; exact ⟨a'.run, hne⟩)⟩
  | done h =>
    obtain ⟨rfl, rfl, -, hf⟩ := h.ok_true
    refine ⟨a'.bt, fun _ hn => ?_, fun _ hn => (by cases hn)⟩
    cases hn
    exact ⟨by rw [a'.run], by rw [← a'.failed]; exact hf, a'.nointr⟩
  | other h hr =>
    exact ⟨h.bt a', fun n hn => absurd hn (ofRun_ne_done _ n), fun n hn => absurd hn (ofRun_ne_reload _ n)⟩

/-- **Accounting of a whole `run::build`** (for `-k N` with N ≥ 1, or no `-k` limit at all):
    every command was started while fewer than N commands had failed and none had been
    interrupted; `ran n tasks` (`.done n`) is reported only when no command failed or was
    interrupted, and `n` is exactly the number of commands that completed successfully; a reload
    is reported only after a manifest phase that ran `n > 0` commands successfully. -/
theorem build_acct {E : Type} {g : Graph} (gok : GraphOK g) (a : Args) (hk : a.failuresLeft ≠ some 0)
    (c : Choices E) (e : E) :
    budgetTrace a.failuresLeft (build g a c e).1.trace = true ∧
    (∀ n, (build g a c e).2.2 = .done n →
      n = succs (sf (build g a c e).1.trace) ∧ fails (sf (build g a c e).1.trace) = 0 ∧
      intr (sf (build g a c e).1.trace) = false) ∧
    (∀ n, (build g a c e).2.2 = .reload n → n = succs (sf (build g a c e).1.trace) ∧ n ≠ 0) := by
  have := (build_runs g a c e).acct gok (fresh_inv g a) (fresh_ainv a hk)
  simpa only [Nat.zero_add] using this

theorem buildReloaded_acct {E : Type} {g : Graph} (gok : GraphOK g) (a : Args) (hk : a.failuresLeft ≠ some 0)
    (c : Choices E) (e : E) (n0 : Nat) :
    budgetTrace a.failuresLeft (buildReloaded g a c e n0).1.trace = true ∧
    (∀ n, (buildReloaded g a c e n0).2.2 = .done n →
      n = n0 + succs (sf (buildReloaded g a c e n0).1.trace) ∧
      fails (sf (buildReloaded g a c e n0).1.trace) = 0 ∧
      intr (sf (buildReloaded g a c e n0).1.trace) = false) :=
  let h := (buildReloaded_runs g a c e n0).acct gok (fresh_inv g a) (fresh_ainv a hk)
  ⟨h.1, h.2.1⟩

end N2V.Run
