/-
  `canonicalize_path` returns normally on every non-empty path.
-/
import N2V.Model.Canon
namespace N2V.Canon

theorem go_ok (rest : Bytes) (ic : Bool) (out : Bytes) (st : List Nat) : ∃ t, go rest ic out st = .ok t := by
  fun_induction go rest ic out st <;> simp_all

theorem canon_ok {s : Bytes} (hne : s ≠ []) : ∃ t, canon s = .ok t := by
  cases s with
  | nil => exact absurd rfl hne
  | cons c r => unfold canon; dsimp only; split <;> exact go_ok ..

end N2V.Canon
