/-
  What is Done is settled.

  `JC e0 s e` is the invariant `Work::run` keeps, jointly of the scheduler state `s` and the
  environment `e`, in a run that started from `e0`.  Its point is the field `settled`: for every
  Done non-phony step whose named files exist, what the NEXT start-up would attach to it
  (`attached`: signature and dependency names of the latest record attributed to it) is the
  manifest of the files as they are now and the step's current discovered dependencies.  The other
  fields are what keeps this true while other steps run: the graph only gains uniquely named
  source files; the stat cache tells the truth except about outputs of steps that are not Done
  yet; the dirtying inputs of a Done step are produced by Done steps, so no later command rewrites
  them; every record appended belongs to a Done step.

  That no later command rewrites a DISCOVERED dependency of a Done step is not a fact about n2
  (it accepts a generated one when the step has a dependency path to it).  It holds when those
  dependencies are source files (`GoodD`), which is assumed, and only of the state the run ends
  in: `GoodD` goes back along every step of a run (`goodD_back`), so what the run carries is
  `GoodD s e → JC e0 s e` (`jc_spec`).

  `JC` speaks of the records written since `e0`, so it makes sense for any `e0`.  For an `e0` that
  `load::read` returned (`Loaded0`) it says the same as `JD` (`Loaded0.jd_iff`), which speaks of
  the latest record of the whole log.  Where nothing is ever discovered it reads as `JS`
  (WorkSettled).
-/
import N2V.Lemmas.WorkRecordD
import N2V.Lemmas.WorkFrame
import N2V.Lemmas.SchedDone
namespace N2V.Work
open N2V N2V.Load N2V.Sched

def newLog (e0 e : Env) : List Rec := e.log.drop e0.log.length

theorem newLog_same {e0 e e' : Env} (h : e'.log = e.log) : newLog e0 e' = newLog e0 e := by unfold newLog; rw [h]

theorem newLog_snoc {e0 e e' : Env} (r : Rec) (hpre : e0.log <+: e.log) (h : e'.log = e.log ++ [r]) :
    newLog e0 e' = newLog e0 e ++ [r] := by
  obtain ⟨t, ht⟩ := hpre
  unfold newLog
  rw [h, ← ht]
  simp

theorem log_eq_newLog {e0 e : Env} (hpre : e0.log <+: e.log) : e.log = e0.log ++ newLog e0 e := by
  obtain ⟨t, ht⟩ := hpre
  unfold newLog
  rw [← ht]
  simp

/-- What the next start-up will attach to step `b` if it finds the log of `e`: signature and
    dependency names of the latest record written since `e0` that is attributed to `b`, or else
    what this start-up attached. -/
def attached (e0 e : Env) (b : Nat) : Option Manifest × List Bytes :=
  match lastRec e0.g b (newLog e0 e) none with
  | some r => (some r.hash, r.deps)
  | none => (assocGet e0.hashes b, (discOf e0 b).map (fileName e0.g))

theorem attached_same {e0 e e' : Env} (h : e'.log = e.log) (b : Nat) : attached e0 e' b = attached e0 e b := by
  unfold attached; rw [newLog_same h]

theorem attached_unattributed {e0 e : Env} {b : Nat}
    (h : ∀ r ∈ newLog e0 e, Db.attributeRec (producerByName e0.g) r.outs ≠ some b) :
    attached e0 e b = (assocGet e0.hashes b, (discOf e0 b).map (fileName e0.g)) := by
  unfold attached; rw [lastRec_none_attributed _ _ _ _ h]

theorem attached_snoc {e0 e e' : Env} (r : Rec) (hpre : e0.log <+: e.log) (h : e'.log = e.log ++ [r]) (b : Nat) :
    attached e0 e' b =
      if Db.attributeRec (producerByName e0.g) r.outs = some b then (some r.hash, r.deps) else attached e0 e b := by
  unfold attached
  rw [newLog_snoc r hpre h, lastRec_snoc]
  by_cases hatt : Db.attributeRec (producerByName e0.g) r.outs = some b
  · rw [if_pos hatt, if_pos hatt]
  · rw [if_neg hatt, if_neg hatt]

/-- The projects covered: no `rw` command (one that rewrites an input), and every step has an
    output (a record is attributed to a step through its outputs). -/
structure PlainD (g : GraphM) : Prop where
  noRw : ∀ b bm, buildOf g b = some bm → isRw bm = false
  outsNe : ∀ b bm, buildOf g b = some bm → bm.outs ≠ []

def AllPresentD (e : Env) (bm : BuildM) (b : Nat) : Prop :=
  ∀ f ∈ bm.dirtying ++ discOf e b ++ bm.outs, (mtimeOf e f).isSome = true

/-- The discovered dependencies of finished steps are source files. -/
def GoodD (s : S) (e : Env) : Prop := ∀ b, s.st b = .done → ∀ f ∈ discOf e b, fileInput e.g f = none

/-- The invariant of `Work::run`, of scheduler state `s` and environment `e` in a run that started
    from `e0` (see the head of this file).  `settled` is the point; `newRecs`, `cache` and `stable`
    keep it true while other steps run; `discIds` and `keys` say that the ids in use are ids of the
    graph. -/
structure JC (e0 : Env) (s : S) (e : Env) : Prop where
  ext : Ext e0.g e.g
  uniq : UniqueNames e.g
  hashes : e.hashes = e0.hashes
  logPre : e0.log <+: e.log
  newRecs : ∀ r ∈ newLog e0 e, ∃ b bm, s.st b = .done ∧ buildOf e0.g b = some bm ∧ r.outs = bm.outs.map (fileName e0.g)
  discKeep : ∀ b, s.st b ≠ .done → discOf e b = discOf e0 b
  discIds : ∀ b, ∀ f ∈ discOf e b, f < e.g.files.length
  keys : ∀ f, Cached e f → f < e.g.files.length
  cache : ∀ f m, assocGet e.cache f = some m →
    m = mtimeOf e f ∨ ∃ p, fileInput e.g f = some p ∧ s.st p ≠ .done
  stable : ∀ b bm, s.st b = .done → buildOf e0.g b = some bm →
    ∀ f ∈ bm.dirtying, ∀ p, fileInput e0.g f = some p → s.st p = .done
  settled : ∀ b bm, s.st b = .done → buildOf e0.g b = some bm → bm.cmdline.isNone = false → AllPresentD e bm b →
    attached e0 e b = (some (manifestFs e bm b), (discOf e b).map (fileName e.g))

theorem JC.newRecs_mono {e0 : Env} {s s' : S} {e : Env} (j : JC e0 s e) (hsub : ∀ x, s.st x = .done → s'.st x = .done) :
    ∀ r ∈ newLog e0 e, ∃ b bm, s'.st b = .done ∧ buildOf e0.g b = some bm ∧ r.outs = bm.outs.map (fileName e0.g) :=
  fun r hr => let ⟨x, bm, h1, h2, h3⟩ := j.newRecs r hr; ⟨x, bm, hsub x h1, h2, h3⟩

theorem JC.ext' {e0 : Env} {s s' : S} {e : Env} (d : DoneEq s s') (j : JC e0 s e) : JC e0 s' e := by
  refine ⟨j.ext, j.uniq, j.hashes, j.logPre, j.newRecs_mono (fun b => (d b).mpr), ?_, j.discIds, j.keys, ?_, ?_, ?_⟩
  · intro b hb; exact j.discKeep b (fun h => hb ((d b).mpr h))
  · intro f m hm
    exact (j.cache f m hm).imp_right (fun ⟨p, hp, hnd⟩ => ⟨p, hp, fun h => hnd ((d p).mp h)⟩)
  · intro b bm hb hbm f hf p hp
    exact (d p).mpr (j.stable b bm ((d b).mp hb) hbm f hf p hp)
  · intro b bm hb hbm hnp hall
    exact j.settled b bm ((d b).mp hb) hbm hnp hall

theorem newRecs_unattributed {e0 e : Env} {s : S} (inv0 : GInv e0.g)
    (h : ∀ r ∈ newLog e0 e, ∃ b bm, s.st b = .done ∧ buildOf e0.g b = some bm ∧ r.outs = bm.outs.map (fileName e0.g))
    (b : Nat) (hnd : s.st b ≠ .done) : ∀ r ∈ newLog e0 e, Db.attributeRec (producerByName e0.g) r.outs ≠ some b := by
  intro r hr hatt
  obtain ⟨x, bmx, hx1, hx2, hx3⟩ := h r hr
  rw [hx3] at hatt
  exact hnd (attributed_unique e0.g inv0 b x bmx hx2 hatt ▸ hx1)

theorem JC.named_lt {e0 : Env} {s : S} {e : Env} (j : JC e0 s e) (inv0 : GInv e0.g) (b : Nat) (bm : BuildM)
    (hbm : buildOf e0.g b = some bm) : ∀ f ∈ bm.dirtying ++ discOf e b ++ bm.outs, f < e.g.files.length := by
  intro f hf
  have ids := ginv_named_lt e0.g inv0 b bm hbm
  simp only [List.mem_append] at hf
  rcases hf with (h | h) | h
  · exact Nat.lt_of_lt_of_le (ids f (by simp [h])) j.ext.length_le
  · exact j.discIds b f h
  · exact Nat.lt_of_lt_of_le (ids f (by simp [h])) j.ext.length_le

theorem allPresentD_same {e e' : Env} (h : SameButCache e e') (bm : BuildM) (b : Nat) :
    AllPresentD e' bm b ↔ AllPresentD e bm b := by
  unfold AllPresentD
  rw [discOf_same h, funext (mtimeOf_same h)]

theorem jc_stat {e0 : Env} {s : S} {e : Env} (j : JC e0 s e) (l : List Nat) (hl : ∀ f ∈ l, f < e.g.files.length) :
    JC e0 s (statMany e l) := by
  have st := statMany_same l e
  have hd := discOf_same st
  refine ⟨by rw [st.g]; exact j.ext, by rw [st.g]; exact j.uniq, st.hashes.trans j.hashes,
    by rw [st.log]; exact j.logPre, ?_, ?_, ?_, ?_, ?_, j.stable, ?_⟩
  · intro r hr; rw [newLog_same st.log] at hr; exact j.newRecs r hr
  · intro x hx; rw [hd]; exact j.discKeep x hx
  · intro x f hf; rw [hd] at hf; rw [st.g]; exact j.discIds x f hf
  · intro f hf
    rw [st.g]
    exact (statMany_cached.mp hf).elim (hl f) (j.keys f)
  · intro f m hm
    rw [mtimeOf_statMany, st.g]
    rw [statMany_cache] at hm
    split at hm
    · exact Or.inl (Option.some.inj hm).symm
    · exact j.cache f m hm
  · intro b' bm hb hbm hnp hall
    rw [attached_same st.log, manifestFs_same st, hd, st.g]
    exact j.settled b' bm hb hbm hnp ((allPresentD_same st bm b').mp hall)

/-- Any dirtiness check keeps the invariant: it stat()s files the step names. -/
theorem jc_check (e0 : Env) (inv0 : GInv e0.g) {s : S} {e : Env} (b : Nat) (j : JC e0 s e) : JC e0 s (checkDirty e b).2 := by
  obtain ⟨l, hl, hK⟩ := checkDirty_stats e b
  rw [hl]
  refine jc_stat j l (fun f hf => ?_)
  obtain ⟨bm, hbm, h⟩ := hK f hf
  exact j.named_lt inv0 b bm (by rw [← j.ext.buildOf]; exact hbm) f h

theorem stable_add {e0 : Env} {s s' : S} {b : Nat} (da : DoneAdd s s' b)
    (hanc : ∀ p, Anc (schedGraph e0.g) b p → s.st p = .done)
    (h : ∀ b' bm, s.st b' = .done → buildOf e0.g b' = some bm →
      ∀ f ∈ bm.dirtying, ∀ p, fileInput e0.g f = some p → s.st p = .done) :
    ∀ b' bm, s'.st b' = .done → buildOf e0.g b' = some bm →
      ∀ f ∈ bm.dirtying, ∀ p, fileInput e0.g f = some p → s'.st p = .done := by
  intro b' bm hb hbm f hf p hp
  apply da.keep
  rcases (da b').mp hb with rfl | hb'
  · exact hanc p (Anc.direct (f := f) (by rw [sg_ordering _ _ _ hbm]; exact dirtying_sub_ordering bm f hf)
      (by rw [sg_producer]; exact hp))
  · exact h b' bm hb' hbm f hf p hp

/-- A step found clean joins the Done set: its outputs were stat()ed by this very check, the
    entries of its inputs are truthful because their producers are Done, and no record was written
    for it, so the next start-up will attach what this one did. -/
theorem jc_check_clean (e0 : Env) (inv0 : GInv e0.g) {s s' : S} {e : Env} (b : Nat) (j : JC e0 s e)
    (hids0 : ∀ f ∈ discOf e0 b, f < e0.g.files.length)
    (hnd : s.st b ≠ .done) (hanc : ∀ p, Anc (schedGraph e0.g) b p → s.st p = .done)
    (hc : (checkDirty e b).1 = some false) (da : DoneAdd s s' b)
    (hgood : ∀ f ∈ discOf e b, fileInput e.g f = none) : JC e0 s' (checkDirty e b).2 := by
  have j1 := jc_check e0 inv0 b j
  have st := checkDirty_same e b
  have hstable := stable_add da hanc j.stable
  -- outputs of `b` were stat()ed by this check
  have houts : ∀ bm, buildOf e0.g b = some bm → ∀ o ∈ bm.outs,
      assocGet (checkDirty e b).2.cache o = some (mtimeOf e o) := by
    intro bm hbm o ho
    have hbe : buildOf e.g b = some bm := by rw [j.ext.buildOf]; exact hbm
    cases hp : bm.cmdline.isNone with
    | true => rw [checkDirty_phony_eq hbe hp, statMany_cache, if_pos ho]
    | false =>
      obtain ⟨l, hl, _⟩ := checkDirty_clean hbe hp hc
      rw [hl, statMany_cache, if_pos (List.mem_append_right _ ho)]
  have hcache : ∀ f m, assocGet (checkDirty e b).2.cache f = some m →
      m = mtimeOf (checkDirty e b).2 f ∨ ∃ p, fileInput (checkDirty e b).2.g f = some p ∧ s'.st p ≠ .done := by
    intro f m hm
    rcases j1.cache f m hm with h | ⟨p, hp, hpn⟩
    · exact Or.inl h
    · by_cases hpb : p = b
      · subst hpb
        rw [st.g] at hp
        obtain ⟨bm, hbm, hfo⟩ := ginv_prod_build e0.g inv0 f p (j.ext.input_old f p hp).2
        rw [houts bm hbm f hfo] at hm
        rw [mtimeOf_same st]
        exact Or.inl (Option.some.inj hm).symm
      · exact Or.inr ⟨p, hp, da.notDone hpb hpn⟩
  refine ⟨j1.ext, j1.uniq, j1.hashes, j1.logPre, j1.newRecs_mono da.keep, ?_, j1.discIds, j1.keys, hcache, hstable, ?_⟩
  · intro x hx
    exact j1.discKeep x (fun h => hx (da.keep x h))
  · intro b' bm hb hbm hnp hall
    rcases (da b').mp hb with rfl | hb'
    · have hbe : buildOf e.g b' = some bm := by rw [j.ext.buildOf]; exact hbm
      obtain ⟨_, _, hpres, c3⟩ := checkDirty_clean hbe hnp hc
      have hd : discOf (checkDirty e b').2 b' = discOf e b' := discOf_same st b'
      -- every entry of a file the step names is truthful
      have hfresh : ∀ f ∈ bm.dirtying ++ discOf (checkDirty e b').2 b' ++ bm.outs,
          assocGet (checkDirty e b').2.cache f = some (mtimeOf (checkDirty e b').2 f) := by
        intro f hf
        rw [hd] at hf
        obtain ⟨t, hm⟩ := hpres f hf
        rcases hcache f _ hm with h | ⟨p, hp, hpn⟩
        · rw [hm, h]
        · exfalso
          rw [st.g] at hp
          simp only [List.mem_append] at hf
          rcases hf with (hf | hf) | hf
          · exact hpn (hstable b' bm hb hbm f hf p (j.ext.input_old f p hp).2)
          · rw [hgood f hf] at hp; cases hp
          · have := fileInput_out e0.g inv0 b' bm hbm f hf
            rw [(j.ext.input_old f p hp).2] at this
            exact hpn (Option.some.inj this ▸ hb)
      rw [attached_same st.log, attached_unattributed (newRecs_unattributed inv0 j.newRecs b' hnd),
        ← manifestOf_fresh _ bm b' hfresh, ← c3, j.hashes, hd, j.discKeep b' hnd, st.g]
      congr 1
      exact List.map_congr_left (fun f hf => (j.ext.fileName_old f (hids0 f hf)).symm)
    · exact j1.settled b' bm hb' hbm hnp hall

/-- `e1` is `e`, or `e` after the command of a step with outputs `outs` ran: only the tree and
    the clock differ, and files that are not among `outs` have the modification time they had. -/
structure Ran (e e1 : Env) (outs : List Nat) : Prop where
  g : e1.g = e.g
  log : e1.log = e.log
  hashes : e1.hashes = e.hashes
  disc : e1.disc = e.disc
  cache : e1.cache = e.cache
  mtime : ∀ f, f < e.g.files.length → f ∉ outs → mtimeOf e1 f = mtimeOf e f

theorem Ran.refl (e : Env) (outs : List Nat) : Ran e e outs := ⟨rfl, rfl, rfl, rfl, rfl, fun _ _ _ => rfl⟩

/-- A command that rewrites none of its inputs touches its outputs only (names are unique). -/
theorem runCommand_ran (e : Env) (b : Nat) (bm : BuildM) (hb : buildOf e.g b = some bm) (hu : UniqueNames e.g)
    (hids : ∀ o ∈ bm.outs, o < e.g.files.length) (hrw : isRw bm = false) : Ran e (runCommand e b) bm.outs := by
  obtain ⟨c1, c2, c3, _, c5⟩ := runCommand_frame e b
  obtain ⟨c6, c7⟩ := runCommand_disc_cache e b
  refine ⟨c3, c1, c2, c6, c7, fun f hf hfo => ?_⟩
  unfold mtimeOf
  rw [c3, c5]
  intro bm' hb'
  rw [hb] at hb'; cases hb'
  exact ⟨fun o ho hname => hfo (hu.fileName_inj (hids o ho) hf hname ▸ ho), fun h => by rw [hrw] at h; cases h⟩

/-- The step `b` finishes (its command succeeded, or `-t restat` adopts it) and joins the Done
    set: `record_finished` runs in an environment that differs from the invariant's at most in the
    state of `b`'s own outputs.  The files older Done steps name are not among those, and the record
    written, if any, is attributed to `b`. -/
theorem jc_record (e0 : Env) (inv0 : GInv e0.g) (plain : PlainD e0.g) {s s' : S} {e e1 : Env} (b : Nat) (bm : BuildM)
    (hbm : buildOf e0.g b = some bm) (j : JC e0 s e) (hgoodS : GoodD s e)
    (hnd : s.st b ≠ .done) (hanc : ∀ p, Anc (schedGraph e0.g) b p → s.st p = .done) (da : DoneAdd s s' b)
    (hr : Ran e e1 bm.outs) (deps : Option (List Bytes)) : JC e0 s' (recordFinished e1 b deps) := by
  have hb1 : buildOf e1.g b = some bm := by rw [hr.g, j.ext.buildOf]; exact hbm
  obtain ⟨r1, r2, r3, _, r5, r6, _, r8, r9, r10⟩ := recordFinished_gen e1 b bm hb1 deps
  have r7 := (recordFinished_spec e1 b bm hb1 deps).2.2.2.2.2.2.1
  have huniq := recordFinished_unique e1 b deps (by rw [hr.g]; exact j.uniq)
  generalize recordFinished e1 b deps = R at r1 r2 r3 r5 r6 r7 r8 r9 r10 huniq
  have hx : Ext e.g R.g := by rw [← hr.g]; exact r1
  have hx0 : Ext e0.g R.g := j.ext.trans hx
  have hidsb := ginv_named_lt e0.g inv0 b bm hbm
  have hmR : ∀ f, f < e.g.files.length → mtimeOf R f = mtimeOf e1 f :=
    fun f hf => mtimeOf_ext r1 r2 f (by rw [hr.g]; exact hf)
  have hdx : ∀ x, x ≠ b → discOf R x = discOf e x := by
    intro x hx; rw [r5 x hx]; unfold discOf; rw [hr.disc]
  have hnames_out : bm.outs.map (fileName R.g) = bm.outs.map (fileName e0.g) :=
    List.map_congr_left (fun o ho => hx0.fileName_old o (hidsb o (by simp [ho])))
  -- an output of `b`, seen in `e`
  have hout_input : ∀ o ∈ bm.outs, fileInput e.g o = some b := by
    intro o ho
    rw [j.ext.fileInput_old o (hidsb o (by simp [ho]))]
    exact fileInput_out e0.g inv0 b bm hbm o ho
  -- files of an older Done step are valid and are not outputs of `b`
  have hfiles_old : ∀ b' bm', s.st b' = .done → buildOf e0.g b' = some bm' →
      ∀ f ∈ bm'.dirtying ++ discOf e b' ++ bm'.outs, f < e.g.files.length ∧ f ∉ bm.outs := by
    intro b' bm' hb' hbm' f hf
    refine ⟨j.named_lt inv0 b' bm' hbm' f hf, fun hfo => ?_⟩
    have hfi := hout_input f hfo
    simp only [List.mem_append] at hf
    rcases hf with (h | h) | h
    · exact hnd (j.stable b' bm' hb' hbm' f h b (j.ext.input_old f b hfi).2)
    · rw [hgoodS b' hb' f h] at hfi; cases hfi
    · have := fileInput_out e0.g inv0 b' bm' hbm' f h
      rw [(j.ext.input_old f b hfi).2] at this
      exact hnd (Option.some.inj this ▸ hb')
  have hlogPre : e0.log <+: R.log := by
    rcases r9 with h | h
    · rw [h, hr.log]; exact j.logPre
    · rw [h, hr.log]; exact j.logPre.trans (List.prefix_append _ _)
  have hattr : Db.attributeRec (producerByName e0.g) (bm.outs.map (fileName R.g)) = some b := by
    rw [hnames_out]; exact attributed_own e0.g inv0 b bm hbm (plain.outsNe b bm hbm)
  refine ⟨hx0, huniq, r3.trans (hr.hashes.trans j.hashes), hlogPre, ?_, ?_, ?_, ?_, ?_, stable_add da hanc j.stable, ?_⟩
  · intro r hr'
    rcases r9 with h | h
    · rw [newLog_same (h.trans hr.log)] at hr'; exact j.newRecs_mono da.keep r hr'
    · rw [newLog_snoc _ j.logPre (h.trans (by rw [hr.log]))] at hr'
      rcases List.mem_append.mp hr' with hr' | hr'
      · exact j.newRecs_mono da.keep r hr'
      · rw [List.mem_singleton.mp hr']; exact ⟨b, bm, da.new, hbm, hnames_out⟩
  · intro x hxd
    rw [hdx x (fun h => hxd (h ▸ da.new))]
    exact j.discKeep x (fun h => hxd (da.keep x h))
  · intro x f hf
    by_cases hxb : x = b
    · subst hxb; exact (r6 f hf).1
    · rw [hdx x hxb] at hf
      exact Nat.lt_of_lt_of_le (j.discIds x f hf) hx.length_le
  · intro f hf
    obtain ⟨m, hm⟩ := cached_iff.mp hf
    rw [r7] at hm
    split at hm
    · next h =>
      simp only [List.mem_append] at h
      rcases h with (h | h) | h
      · exact Nat.lt_of_lt_of_le (hidsb f (by simp [h])) hx0.length_le
      · exact (r6 f h).1
      · exact Nat.lt_of_lt_of_le (hidsb f (by simp [h])) hx0.length_le
    · rw [hr.cache] at hm
      exact Nat.lt_of_lt_of_le (j.keys f (cached_iff.mpr ⟨m, hm⟩)) hx.length_le
  · intro f m hm
    rw [r7] at hm
    split at hm
    · exact Or.inl (Option.some.inj hm).symm
    · next hfb =>
      have hfo : f ∉ bm.outs := fun h => hfb (by simp [h])
      rw [hr.cache] at hm
      have hv : f < e.g.files.length := j.keys f (cached_iff.mpr ⟨m, hm⟩)
      rcases j.cache f m hm with h' | ⟨p, hp, hpn⟩
      · left; rw [h', hmR f hv, hr.mtime f hv hfo]
      · refine Or.inr ⟨p, by rw [hx.fileInput_old f hv]; exact hp, da.notDone (fun hpb => ?_) hpn⟩
        subst hpb
        obtain ⟨bm2, hbm2, hfo2⟩ := ginv_prod_build e0.g inv0 f p (j.ext.input_old f p hp).2
        rw [hbm] at hbm2; cases hbm2
        exact hfo hfo2
  · intro b' bm' hb hbm' hnp hall
    rcases (da b').mp hb with rfl | hb'
    · -- the step that just finished: its record is the manifest of the fresh state
      rw [hbm] at hbm'; cases hbm'
      rw [attached_snoc _ j.logPre ((r10 hall).trans (by rw [hr.log])), if_pos hattr, manifestOf_fresh R bm b' r8]
    · -- an older Done step: its files were not touched, the new record is not its own
      have hne : b' ≠ b := fun h => hnd (h ▸ hb')
      have hfo := hfiles_old b' bm' hb' hbm'
      have hdd : discOf R b' = discOf e b' := hdx b' hne
      have hmt : ∀ f ∈ bm'.dirtying ++ discOf e b' ++ bm'.outs, mtimeOf R f = mtimeOf e f :=
        fun f hf => by rw [hmR f (hfo f hf).1, hr.mtime f (hfo f hf).1 (hfo f hf).2]
      have hnm : ∀ f ∈ bm'.dirtying ++ discOf e b' ++ bm'.outs, fileName R.g f = fileName e.g f :=
        fun f hf => hx.fileName_old f (hfo f hf).1
      have hatt : attached e0 R b' = attached e0 e b' := by
        rcases r9 with h | h
        · exact attached_same (h.trans hr.log) b'
        · rw [attached_snoc _ j.logPre (h.trans (by rw [hr.log])), if_neg]
          rw [hattr]; exact fun hh => hne (Option.some.inj hh).symm
      rw [hatt, j.settled b' bm' hb' hbm' hnp (fun f hf => by rw [← hmt f hf]; exact hall f (by rw [hdd]; exact hf)),
        manifestFs_congr e R bm' b' hdd hnm hmt, hdd]
      congr 1
      exact List.map_congr_left (fun f hf => (hnm f (by simp [hf])).symm)

/-- An id that is no step joins the Done set: nothing happens, and no file is produced by it. -/
theorem jc_add_nobuild (e0 : Env) (inv0 : GInv e0.g) {s s' : S} {e : Env} (b : Nat) (hnone : buildOf e0.g b = none)
    (j : JC e0 s e) (da : DoneAdd s s' b) : JC e0 s' e := by
  have hold : ∀ b' bm, s'.st b' = .done → buildOf e0.g b' = some bm → s.st b' = .done := by
    intro b' bm hb hbm
    rcases (da b').mp hb with rfl | hb'
    · rw [hnone] at hbm; cases hbm
    · exact hb'
  refine ⟨j.ext, j.uniq, j.hashes, j.logPre, j.newRecs_mono da.keep, ?_, j.discIds, j.keys, ?_, ?_, ?_⟩
  · intro x hx; exact j.discKeep x (fun h => hx (da.keep x h))
  · intro f m hm
    refine (j.cache f m hm).imp_right (fun ⟨p, hp, hpn⟩ => ⟨p, hp, da.notDone (fun hpb => ?_) hpn⟩)
    obtain ⟨bm, hbm, _⟩ := ginv_prod_build e0.g inv0 f p (j.ext.input_old f p hp).2
    rw [hpb, hnone] at hbm; cases hbm
  · intro b' bm hb hbm f hf p hp
    exact da.keep p (j.stable b' bm (hold b' bm hb hbm) hbm f hf p hp)
  · intro b' bm hb hbm hnp hall
    exact j.settled b' bm (hold b' bm hb hbm) hbm hnp hall

/-- The premise goes back along a step: from the later state to the earlier one, when the Done
    set only grew, the graph only gained source files and the lists of the steps Done before are
    the same. -/
theorem goodD_back {s s' : S} {e e' : Env} (hsub : ∀ x, s.st x = .done → s'.st x = .done)
    (hx : Ext e.g e'.g) (hd : ∀ x, s.st x = .done → discOf e' x = discOf e x) (h : GoodD s' e') : GoodD s e := by
  intro x hxd f hf
  have := h x (hsub x hxd) f (by rw [hd x hxd]; exact hf)
  by_cases hv : f < e.g.files.length
  · rw [← hx.fileInput_old f hv]; exact this
  · unfold fileInput
    rw [List.getElem?_eq_none (by omega)]
    rfl

/-- Whatever `b` is, a command's success only adds source files to the graph and only replaces
    the list of `b`. -/
theorem onSuccess_ext (e : Env) (b : Nat) :
    Ext e.g (onSuccess e b).g ∧ ∀ x, x ≠ b → discOf (onSuccess e b) x = discOf e x := by
  cases hb : buildOf e.g b with
  | none => rw [onSuccess_none hb]; exact ⟨Ext.refl _, fun _ _ => rfl⟩
  | some bm =>
    rw [onSuccess_some hb]
    obtain ⟨hx, hd⟩ := recordFinished_ext (runCommand e b) b (if readsDeps bm then some (reportedDeps e bm) else none)
    rw [(runCommand_frame e b).2.2.1] at hx
    refine ⟨hx, fun x hxb => (hd x hxb).trans ?_⟩
    unfold discOf; rw [(runCommand_disc_cache e b).1]

/-- `GoodD → JC` is an invariant `Work::run` carries (`DoneSpec`, SchedDone).  In each case the
    premise, given of the later state, is taken back to the earlier one by `goodD_back`. -/
theorem jc_spec (e0 : Env) (inv0 : GInv e0.g) (hids0 : ∀ b, ∀ f ∈ discOf e0 b, f < e0.g.files.length)
    (plain : PlainD e0.g) (adopt : Bool) (perms : List (List Nat)) (fin : List (Nat × Term)) :
    DoneSpec (schedGraph e0.g) (choices adopt perms fin) (fun s e => GoodD s e → JC e0 s e) where
  ext := fun s s' e d j hg => (j (fun b hb => hg b ((d b).mpr hb))).ext' d
  clean := by
    intro s s' e b j hnd hanc hc da hg
    change GoodD s' (checkDirty e b).2 at hg
    have st := checkDirty_same e b
    have hd := discOf_same st
    have hg0 : GoodD s e := goodD_back da.keep (by rw [st.g]; exact Ext.refl _) (fun x _ => hd x) hg
    refine jc_check_clean e0 inv0 b (j hg0) (hids0 b) hnd hanc hc da (fun f hf => ?_)
    have := hg b da.new f (by rw [hd]; exact hf)
    rwa [st.g] at this
  dirty := by
    intro s e b j _ _ _ hg
    change GoodD s (checkDirty e b).2 at hg
    have st := checkDirty_same e b
    exact jc_check e0 inv0 b (j (goodD_back (fun _ h => h) (by rw [st.g]; exact Ext.refl _)
      (fun x _ => discOf_same st x) hg))
  adopt := by
    intro s s' e b j hnd hanc da hg
    show JC e0 s' (recordFinished e b none)
    obtain ⟨hx, hd⟩ := recordFinished_ext e b none
    have hg0 : GoodD s e := goodD_back da.keep hx (fun x hxd => hd x (fun h => hnd (h ▸ hxd))) hg
    have jc := j hg0
    cases hbm : buildOf e0.g b with
    | none =>
      rw [recordFinished_none (by rw [jc.ext.buildOf]; exact hbm)]
      exact jc_add_nobuild e0 inv0 b hbm jc da
    | some bm => exact jc_record e0 inv0 plain b bm hbm jc hg0 hnd hanc da (Ran.refl e _) none
  success := by
    intro s s' e b j hnd hanc da hg
    show JC e0 s' (onSuccess e b)
    obtain ⟨hx, hd⟩ := onSuccess_ext e b
    have hg0 : GoodD s e := goodD_back da.keep hx (fun x hxd => hd x (fun h => hnd (h ▸ hxd))) hg
    have jc := j hg0
    cases hbm : buildOf e0.g b with
    | none =>
      rw [onSuccess_none (by rw [jc.ext.buildOf]; exact hbm)]
      exact jc_add_nobuild e0 inv0 b hbm jc da
    | some bm =>
      have hbe : buildOf e.g b = some bm := by rw [jc.ext.buildOf]; exact hbm
      rw [onSuccess_some hbe]
      exact jc_record e0 inv0 plain b bm hbm jc hg0 hnd hanc da
        (runCommand_ran e b bm hbe jc.uniq (fun o ho => Nat.lt_of_lt_of_le
          (ginv_named_lt e0.g inv0 b bm hbm o (by simp [ho])) jc.ext.length_le) (plain.noRw b bm hbm)) _

theorem jc_initial (e0 : Env) (a : Run.Args) (inv0 : GInv e0.g)
    (hids0 : ∀ b, ∀ f ∈ discOf e0 b, f < e0.g.files.length) (hc0 : e0.cache = []) : JC e0 (Run.fresh a) e0 := by
  have hnd : ∀ b, (Run.fresh a).st b ≠ .done := fun b h => by simp [Run.fresh, init] at h
  refine ⟨Ext.refl _, inv0.names, rfl, List.prefix_refl _, ?_, fun _ _ => rfl, hids0, ?_, ?_, ?_, ?_⟩
  · intro r hr; simp [newLog] at hr
  · intro f hf; obtain ⟨m, hm⟩ := cached_iff.mp hf; rw [hc0] at hm; cases hm
  · intro f m hm; rw [hc0] at hm; cases hm
  · intro b bm hb; exact absurd hb (hnd b)
  · intro b bm hb; exact absurd hb (hnd b)

/-- What start-up attached to the steps (`applyLog_spec`). -/
structure Loaded0 (e0 : Env) : Prop where
  rem : ∀ b r, lastRec e0.g b e0.log none = some r → Remembers e0 b r
  norec : ∀ b, lastRec e0.g b e0.log none = none → assocGet e0.hashes b = none ∧ discOf e0 b = []

theorem Loaded0.ids {e0 : Env} (h : Loaded0 e0) (b : Nat) : ∀ f ∈ discOf e0 b, f < e0.g.files.length := by
  intro f hf
  cases hl : lastRec e0.g b e0.log none with
  | none => rw [(h.norec b hl).2] at hf; cases hf
  | some r => exact (h.rem b r hl).2.1 f hf

/-- What the next start-up will attach is what the latest record of the whole log says: start-up
    attached what the latest record of the old log said. -/
theorem Loaded0.attached_iff {e0 e : Env} (l0 : Loaded0 e0) (hpre : e0.log <+: e.log) (b : Nat) (h : Manifest)
    (d : List Bytes) :
    attached e0 e b = (some h, d) ↔ ∃ r, lastRec e0.g b e.log none = some r ∧ r.hash = h ∧ r.deps = d := by
  have hlast : lastRec e0.g b e.log none =
      (lastRec e0.g b (newLog e0 e) none).or (lastRec e0.g b e0.log none) := by
    conv => lhs; rw [log_eq_newLog hpre, lastRec_append]
    exact lastRec_acc _ _ _ _
  unfold attached
  rw [hlast]
  cases lastRec e0.g b (newLog e0 e) none with
  | some r => simp
  | none =>
    cases hl : lastRec e0.g b e0.log none with
    | some r0 =>
      obtain ⟨h1, _, h3⟩ := l0.rem b r0 hl
      simp [h1, h3]
    | none => simp [(l0.norec b hl).1]

/-- `JC` for an `e0` that `load::read` returned (`Loaded0.jd_iff`): `settled` speaks of the latest
    record of the whole log instead of `attached`. -/
structure JD (e0 : Env) (s : S) (e : Env) : Prop where
  ext : Ext e0.g e.g
  uniq : UniqueNames e.g
  hashes : e.hashes = e0.hashes
  logPre : e0.log <+: e.log
  newRecs : ∀ r ∈ newLog e0 e, ∃ b bm, s.st b = .done ∧ buildOf e0.g b = some bm ∧ r.outs = bm.outs.map (fileName e0.g)
  discKeep : ∀ b, s.st b ≠ .done → discOf e b = discOf e0 b
  discIds : ∀ b, ∀ f ∈ discOf e b, f < e.g.files.length
  keys : ∀ f, Cached e f → f < e.g.files.length
  cache : ∀ f m, assocGet e.cache f = some m →
    m = mtimeOf e f ∨ ∃ p, fileInput e.g f = some p ∧ s.st p ≠ .done
  stable : ∀ b bm, s.st b = .done → buildOf e0.g b = some bm →
    ∀ f ∈ bm.dirtying, ∀ p, fileInput e0.g f = some p → s.st p = .done
  settled : ∀ b bm, s.st b = .done → buildOf e0.g b = some bm → bm.cmdline.isNone = false → AllPresentD e bm b →
    ∃ r, lastRec e0.g b e.log none = some r ∧ r.hash = manifestFs e bm b ∧ r.deps = (discOf e b).map (fileName e.g)

/-- For a loaded environment the two statements of the invariant say the same. -/
theorem Loaded0.jd_iff {e0 : Env} (l0 : Loaded0 e0) (s : S) (e : Env) : JD e0 s e ↔ JC e0 s e :=
  ⟨fun j => ⟨j.ext, j.uniq, j.hashes, j.logPre, j.newRecs, j.discKeep, j.discIds, j.keys, j.cache, j.stable,
      fun b bm h1 h2 h3 h4 => (l0.attached_iff j.logPre b _ _).mpr (j.settled b bm h1 h2 h3 h4)⟩,
   fun j => ⟨j.ext, j.uniq, j.hashes, j.logPre, j.newRecs, j.discKeep, j.discIds, j.keys, j.cache, j.stable,
      fun b bm h1 h2 h3 h4 => (l0.attached_iff j.logPre b _ _).mp (j.settled b bm h1 h2 h3 h4)⟩⟩

end N2V.Work
