/-
  Totality of the manifest parser: for every byte string, `Parser::read` returns an item or a
  parse error — it never reads outside the buffer, never steps back before the start, never wraps
  the line counter, and every loop advances (the model's fuel `size + 1` is always enough).
-/
import N2V.Lemmas.PM
namespace N2V.Parse
open N2V N2V.Scanner N2V.Eval
open N2V.Depfile (G)

section
variable {α β : Type} {B : Nat} {buf : Array UInt8} {s : Scanner}

theorem ok1_bind {m : PM α} {f : α → PM β} {P : α → Scanner → Prop}
    {Q : β → Scanner → Prop} (hm : Ok1 B P (m s)) (hf : ∀ a s1, P a s1 → Ok1 B Q (f a s1)) :
    Ok1 B Q ((m >>= f) s) := by
  simp only [bind, PM.bind]
  cases h : m s with
  | ok a s1 => rw [h] at hm; exact hf a s1 hm
  | perr msg o => rw [h] at hm; exact hm
  | bad r => rw [h] at hm; exact hm

theorem ok1_pure {a : α} {P : α → Scanner → Prop} (h : P a s) :
    Ok1 B P ((pure a : PM α) s) := h

theorem ok1_error {msg : String} {P : α → Scanner → Prop} (h : s.ofs ≤ B) :
    Ok1 B P ((pError msg : PM α) s) := h

theorem ok1_ite {Q : α → Scanner → Prop} {c : Prop} [Decidable c] {t e : PM α}
    (ht : c → Ok1 B Q (t s)) (he : ¬ c → Ok1 B Q (e s)) : Ok1 B Q ((if c then t else e) s) := by
  split
  · exact ht ‹_›
  · exact he ‹_›

theorem ok1_ifeq {Q : α → Scanner → Prop} {a b : UInt8} {t e : PM α}
    (ht : a = b → Ok1 B Q (t s)) (he : a ≠ b → Ok1 B Q (e s)) : Ok1 B Q ((if a == b then t else e) s) :=
  ok1_ite (fun h => ht (byte_beq.mp h)) fun h => he fun e => h (byte_beq.mpr e)

theorem ok1_ifne {Q : α → Scanner → Prop} {a b : UInt8} {t e : PM α}
    (ht : a ≠ b → Ok1 B Q (t s)) (he : a = b → Ok1 B Q (e s)) : Ok1 B Q ((if a != b then t else e) s) :=
  ok1_ite (fun h => ht (byte_of_bne h)) fun h => he (Classical.not_not.mp fun e => h (byte_bne e))

theorem ok1_then {k : Nat} {m : PM α} {f : α → PM β}
    {Q : β → Scanner → Prop} (hm : Ok1 B (fun _ s' => G buf s' ∧ k ≤ s'.ofs) (m s))
    (hf : ∀ a s1, G buf s1 → k ≤ s1.ofs → Ok1 B Q (f a s1)) : Ok1 B Q ((m >>= f) s) :=
  ok1_bind hm fun a s1 h => hf a s1 h.1 h.2

def Advances {α : Type} (buf : Array UInt8) (m : PM α) : Prop :=
  ∀ s, G buf s → Ok1 buf.size (fun _ s' => G buf s' ∧ s.ofs ≤ s'.ofs) (m s)

def Consumes {α : Type} (buf : Array UInt8) (m : PM α) : Prop :=
  ∀ s, G buf s → Ok1 buf.size (fun _ s' => G buf s' ∧ s.ofs < s'.ofs) (m s)

theorem ok1_read {Q : β → Scanner → Prop} {f : UInt8 → PM β}
    (w : SW buf s) (h : s.ofs < buf.size) (hf : ∀ c, buf[s.ofs]? = some c → Ok1 buf.size Q (f c (s.step c))) :
    Ok1 buf.size Q ((pRead >>= f) s) := by
  obtain ⟨c, hc⟩ := byte_at h
  rw [bind_eq (pRead_step w hc)]
  exact hf c hc

theorem ok1_peek {Q : β → Scanner → Prop} {f : UInt8 → PM β}
    (w : SW buf s) (h : s.ofs < buf.size) (hf : ∀ c, buf[s.ofs]? = some c → Ok1 buf.size Q (f c s)) :
    Ok1 buf.size Q ((pPeek >>= f) s) := by
  obtain ⟨c, hc⟩ := byte_at h
  rw [bind_eq (pPeek_byte w hc)]
  exact hf c hc

theorem pBack_ge (w : SW buf s) (start : Nat) (h : start < s.ofs)
    (hn : s.ofs = start + 1 → NCR buf start) :
    Ok1 buf.size (fun _ s' => G buf s' ∧ start ≤ s'.ofs) (pBack s) := by
  obtain ⟨s', hb, g', hge⟩ := Depfile.back_ge w start h hn
  exact ok1_of_eq (by unfold pBack; rw [hb]) ⟨g', hge⟩

theorem pBack_ok1 {c : UInt8} (g : G buf s) (hc : buf[s.ofs]? = some c) :
    Ok1 buf.size (fun _ s' => G buf s' ∧ s.ofs ≤ s'.ofs) (pBack (s.step c)) :=
  ok1_of_eq (pBack_step g hc) ⟨g, Nat.le_refl _⟩

theorem pExpect_ok1 (buf : Array UInt8) (ch : UInt8) (h : ch ≠ NUL ∧ ch ≠ CR) : Consumes buf (pExpect ch) := fun _ g =>
  ok1_mono (expect_ok1 g ch) fun _ _ ⟨e, hc⟩ => e ▸ ⟨G.step g.w hc h, Nat.lt_succ_self _⟩

theorem pSlice_ok1 (w : SW buf s) (a b : Nat) (h : a ≤ b ∧ b ≤ buf.size)
    {P : Bytes → Scanner → Prop} (hp : ∀ x, P x s) : Ok1 buf.size P (pSlice a b s) := by
  unfold pSlice slice
  have : a ≤ b ∧ b ≤ s.buf.size := by rw [w.hb]; exact h
  rw [if_pos this]
  exact hp _

/-- The literal text pending between `a` and `b`, appended when there is any: the scanner is not
    touched. -/
theorem pendingLit_ok1 (w : SW buf s) (a b : Nat) (acc : List Part)
    (h : a < b → b ≤ buf.size) :
    Ok1 buf.size (fun acc' s' => s' = s ∧ (a < b ∨ acc' = acc))
      ((if b > a then do let l ← pSlice a b; pure (acc ++ [Part.lit l]) else pure acc) s) :=
  ok1_ite
    (fun hgt => ok1_bind (pSlice_ok1 w a b ⟨Nat.le_of_lt hgt, h hgt⟩ (P := fun _ s' => s' = s) fun _ => rfl)
      fun _ _ e => ok1_pure ⟨e, Or.inl hgt⟩)
    fun _ => ok1_pure ⟨rfl, Or.inr rfl⟩

theorem pScannerSkipSpaces_ok1 (g : G buf s) :
    Ok1 buf.size (fun _ s' => G buf s' ∧ s.ofs ≤ s'.ofs ∧ (buf[s.ofs]? = some SP → s.ofs < s'.ofs))
      (pScannerSkipSpaces s) := by
  obtain ⟨s', h', post⟩ := Depfile.scanner_skipSpaces_ok buf (s.buf.size + 1) s g (by rw [g.w.hb]; exact fuel_init _ _)
  unfold pScannerSkipSpaces
  rw [h']
  exact post

theorem Consumes.advances {m : PM α} (h : Consumes buf m) : Advances buf m := fun s g =>
  ok1_mono (h s g) fun _ _ h' => ⟨h'.1, Nat.le_of_lt h'.2⟩

theorem Advances.bind {m : PM α} {f : α → PM β} (hm : Advances buf m) (hf : ∀ a, Advances buf (f a)) :
    Advances buf (m >>= f) := fun s g =>
  ok1_then (hm s g) fun a s1 g1 h1 => ok1_later (hf a s1 g1) h1

theorem Consumes.bind {m : PM α} {f : α → PM β} (hm : Consumes buf m) (hf : ∀ a, Advances buf (f a)) :
    Consumes buf (m >>= f) := fun s g =>
  ok1_then (hm s g) fun a s1 g1 h1 => ok1_later (hf a s1 g1) h1

theorem Advances.bind_consumes {m : PM α} {f : α → PM β} (hm : Advances buf m) (hf : ∀ a, Consumes buf (f a)) :
    Consumes buf (m >>= f) := fun s g =>
  ok1_then (hm s g) fun a s1 g1 h1 => ok1_later (hf a s1 g1) (Nat.succ_le_succ h1)

theorem Advances.pure (a : α) : Advances buf (pure a) := fun _ g => ok1_pure ⟨g, Nat.le_refl _⟩

theorem Consumes.map {m : PM α} (f : α → β) (h : Consumes buf m) : Consumes buf (do let a ← m; Pure.pure (f a)) :=
  h.bind fun _ => Advances.pure _

theorem Advances.error {msg : String} : Advances buf (pError msg : PM α) := fun _ g => ok1_error g.w.le

theorem Consumes.error {msg : String} : Consumes buf (pError msg : PM α) := fun _ g => ok1_error g.w.le

theorem Advances.peek {f : UInt8 → PM β} (hf : ∀ c, Advances buf (f c)) : Advances buf (pPeek >>= f) := fun s g =>
  ok1_peek g.w g.lt fun c _ => hf c s g

theorem Advances.ite {c : Prop} [Decidable c] {t e : PM α} (ht : Advances buf t) (he : Advances buf e) :
    Advances buf (if c then t else e) := fun s g => ok1_ite (fun _ => ht s g) fun _ => he s g

theorem Consumes.ite {c : Prop} [Decidable c] {t e : PM α} (ht : Consumes buf t) (he : Consumes buf e) :
    Consumes buf (if c then t else e) := fun s g => ok1_ite (fun _ => ht s g) fun _ => he s g

theorem Advances.size {f : Nat → PM β} (h : Advances buf (f buf.size)) : Advances buf (pSize >>= f) := fun s g => by
  rw [pSize_bind g.w]; exact h s g

end

theorem identLoop_ok1 (buf : Array UInt8) (d : Bool) : ∀ (fuel : Nat) (s : Scanner), SW buf s → s.ofs < buf.size →
    buf.size - s.ofs < fuel → Ok1 buf.size (fun _ s' => SW buf s' ∧ s.ofs < s'.ofs) (identLoop d fuel s) := by
  intro fuel
  induction fuel with
  | zero => intro s _ _ h; exact absurd h (Nat.not_lt_zero _)
  | succ fuel ih =>
    intro s w hlt hf
    unfold identLoop
    refine ok1_read w hlt fun c hc => ok1_ite (fun hi => ?_) fun _ => ok1_pure ⟨w.step hc, Nat.lt_succ_self _⟩
    exact ok1_mono (ih _ (w.step hc) (w.step_lt hc (isIdentChar_ne c d hi).1) (fuel_succ hlt hf (Nat.lt_succ_self _)))
      fun _ _ h => ⟨h.1, Nat.lt_of_succ_lt h.2⟩

theorem readIdentGen_ok1 (buf : Array UInt8) (d : Bool) (msg : String) : Consumes buf (readIdentGen d msg) := by
  intro s g
  unfold readIdentGen
  rw [pOfs_bind, pSize_bind g.w]
  refine ok1_bind (identLoop_ok1 buf d _ s g.w g.lt (fuel_init _ _)) fun _ s2 ⟨w2, hlt2⟩ => ?_
  refine ok1_then (pBack_ge w2 s.ofs hlt2 fun _ => g.ncr) fun _ s3 g3 hge => ?_
  rw [pOfs_bind]
  refine ok1_ite (fun _ => ok1_error g3.w.le) fun he => ?_
  exact pSlice_ok1 g3.w _ _ ⟨hge, Nat.le_of_lt g3.lt⟩
    fun _ => ⟨g3, Nat.lt_of_le_of_ne hge fun e => he (beq_iff_eq.mpr e.symm)⟩

theorem readIdent_ok1 (buf : Array UInt8) : Consumes buf readIdent := readIdentGen_ok1 buf _ _

theorem readSimpleVarname_ok1 (buf : Array UInt8) : Consumes buf readSimpleVarname := readIdentGen_ok1 buf _ _

theorem skipSpacesLoop_ok1 (buf : Array UInt8) : ∀ (fuel : Nat) (s : Scanner), G buf s → buf.size - s.ofs < fuel →
    Ok1 buf.size (fun _ s' => G buf s' ∧ s.ofs ≤ s'.ofs) (skipSpacesLoop fuel s) := by
  intro fuel
  induction fuel with
  | zero => intro s _ h; exact absurd h (Nat.not_lt_zero _)
  | succ fuel ih =>
    intro s g hf
    unfold skipSpacesLoop
    refine ok1_read g.w g.lt fun c hc => ?_
    refine ok1_ifeq (fun hsp => ?_) fun _ => ok1_ifeq (fun hd => ?_) fun _ => pBack_ok1 g hc
    · subst hsp
      exact ok1_later (ih _ (G.step g.w hc sp_inner) (fuel_succ g.lt hf (Nat.lt_succ_self _))) (Nat.le_succ _)
    · subst hd
      have w1 := g.w.step hc
      refine ok1_peek w1 (g.w.step_lt hc (by decide)) fun p hp => ok1_ifne (fun _ => pBack_ok1 g hc) fun hnl => ?_
      subst hnl
      rw [bind_eq (pRead_step w1 hp)]
      exact ok1_later (ih _ (G.step w1 hp nl_inner) (fuel_succ g.lt hf (Nat.lt_succ_of_lt (Nat.lt_succ_self _))))
        (Nat.le_add_right _ 2)

theorem skipSpaces_ok1 (buf : Array UInt8) : Advances buf skipSpaces :=
  Advances.size fun s g => skipSpacesLoop_ok1 buf _ s g (fuel_init _ _)

theorem braceLoop_ok1 (buf : Array UInt8) : ∀ (fuel : Nat) (s : Scanner), SW buf s → s.ofs < buf.size →
    buf.size - s.ofs < fuel → Ok1 buf.size (fun _ s' => G buf s' ∧ s.ofs < s'.ofs) (braceLoop fuel s) := by
  intro fuel
  induction fuel with
  | zero => intro s _ _ h; exact absurd h (Nat.not_lt_zero _)
  | succ fuel ih =>
    intro s w hlt hf
    unfold braceLoop
    refine ok1_read w hlt fun c hc => ?_
    refine ok1_ifeq (fun _ => ok1_error (w.step hc).le) fun h0 => ok1_ifeq (fun hr => ?_) fun _ => ?_
    · subst hr; exact ok1_pure ⟨G.step w hc ⟨h0, by decide⟩, Nat.lt_succ_self _⟩
    · exact ok1_mono (ih _ (w.step hc) (w.step_lt hc h0) (fuel_succ hlt hf (Nat.lt_succ_self _)))
        fun _ _ h => ⟨h.1, Nat.lt_of_succ_lt h.2⟩

/-- The bytes that stand for themselves after a `$` are neither NUL nor CR. -/
theorem escChar_ne {c : UInt8} (h : (c == SP || c == DOLLAR || c == COLON) = true) : c ≠ NUL ∧ c ≠ CR := by
  simp only [Bool.or_eq_true, beq_iff_eq] at h
  rcases h with (rfl | rfl) | rfl <;> decide

theorem readEscape_ok1 (buf : Array UInt8) : Consumes buf readEscape := by
  intro s g
  unfold readEscape
  refine ok1_read g.w g.lt fun c hc => ?_
  have w1 := g.w.step hc
  refine ok1_ifeq (fun hnl => ?_) fun _ => ok1_ite (fun hlit => ?_) fun _ => ok1_ifeq (fun hlb => ?_) fun _ => ?_
  · subst hnl
    refine ok1_bind (pScannerSkipSpaces_ok1 (G.step g.w hc nl_inner)) fun _ s2 ⟨g2, hle, _⟩ => ?_
    exact ok1_pure ⟨g2, Nat.lt_of_succ_le hle⟩
  · exact ok1_pure ⟨G.step g.w hc (escChar_ne hlit), Nat.lt_succ_self _⟩
  · subst hlb
    rw [pOfs_bind, pSize_bind w1]
    refine ok1_then (braceLoop_ok1 buf _ _ w1 (g.w.step_lt hc (by decide)) (fuel_init _ _)) fun _ s2 g2 hlt2 => ?_
    rw [pOfs_bind]
    refine ok1_bind (pSlice_ok1 g2.w _ _ ⟨Nat.le_sub_one_of_lt hlt2, Nat.le_trans (Nat.sub_le _ _) g2.w.le⟩
      (P := fun _ s' => s' = s2) fun _ => rfl) fun _ _ e => ?_
    subst e
    exact ok1_pure ⟨g2, Nat.lt_of_succ_lt hlt2⟩
  · rw [bind_eq (pBack_step g hc)]
    refine ok1_then (readSimpleVarname_ok1 buf s g) fun _ s3 g3 hlt3 => ?_
    exact ok1_pure ⟨g3, hlt3⟩

/-- `lo` is where `read_eval` started; `ofs` is the start of the pending literal. -/
theorem evalLoop_ok1 (buf : Array UInt8) (sep : Bool) (lo : Nat) : ∀ (fuel : Nat) (ofs : Nat) (acc : List Part)
    (s : Scanner), SW buf s → s.ofs < buf.size → ofs ≤ s.ofs → (s.ofs = ofs → NCR buf ofs) → lo ≤ ofs →
    (acc ≠ [] → lo < ofs) → buf.size - s.ofs < fuel →
    Ok1 buf.size (fun r s' => G buf s' ∧ r.2.2 = s'.ofs ∧ r.2.1 ≤ r.2.2 ∧ lo ≤ r.2.1 ∧ (r.1 ≠ [] → lo < r.2.1))
      (evalLoop sep fuel ofs acc s) := by
  intro fuel
  induction fuel with
  | zero => intro _ _ s _ _ _ _ _ _ h; exact absurd h (Nat.not_lt_zero _)
  | succ fuel ih =>
    intro ofs acc s w hlt hle hn0 hlo hacc hf
    unfold evalLoop
    refine ok1_read w hlt fun c hc => ?_
    have w1 := w.step hc
    refine ok1_ifeq (fun _ => ok1_error w1.le) fun h0 => ok1_ite (fun _ => ?_) fun _ =>
      ok1_ifeq (fun hd => ?_) fun _ => ?_
    · refine ok1_then (pBack_ge w1 ofs (Nat.lt_succ_of_le hle) fun e => hn0 (Nat.succ.inj e)) fun _ s2 g2 hge => ?_
      exact ok1_pure ⟨g2, rfl, hge, hlo, hacc⟩
    · subst hd
      rw [pOfs_bind]
      refine ok1_bind (pendingLit_ok1 w1 ofs _ acc fun _ => Nat.le_trans (Nat.sub_le _ _) w1.le)
        fun acc1 _ ⟨e, _⟩ => ?_
      subst e
      refine ok1_then (readEscape_ok1 buf _ (G.step w hc (by decide))) fun esc s2 g2 hlt2 => ?_
      have hlt2 : s.ofs + 1 < s2.ofs := hlt2
      rw [pOfs_bind]
      exact ih s2.ofs (acc1 ++ [esc]) s2 g2.w g2.lt (Nat.le_refl _) (fun _ => g2.ncr) (by omega)
        (fun _ => by omega) (fuel_succ hlt hf (Nat.lt_of_succ_lt hlt2))
    · exact ih ofs acc _ w1 (w.step_lt hc h0) (Nat.le_succ_of_le hle)
        (fun e => absurd (e ▸ hle) (Nat.not_succ_le_self _)) hlo hacc (fuel_succ hlt hf (Nat.lt_succ_self _))

theorem readEval_ok1 (buf : Array UInt8) (sep : Bool) : Consumes buf (readEval sep) := by
  intro s g
  unfold readEval
  rw [pOfs_bind, pSize_bind g.w]
  refine ok1_bind (evalLoop_ok1 buf sep s.ofs _ s.ofs [] s g.w g.lt (Nat.le_refl _) (fun _ => g.ncr)
    (Nat.le_refl _) (fun h => absurd rfl h) (fuel_init _ _)) fun r s2 h => ?_
  obtain ⟨acc, ofs', e⟩ := r
  obtain ⟨g2, he, hle, hlo, hacc⟩ := h
  simp only [] at he hle hlo hacc
  refine ok1_bind (pendingLit_ok1 g2.w ofs' e acc fun _ => he ▸ Nat.le_of_lt g2.lt) fun acc' _ ⟨e2, hlit⟩ => ?_
  subst e2
  refine ok1_ite (fun _ => ok1_error g2.w.le) fun hem => ok1_pure ⟨g2, ?_⟩
  rcases hlit with h | h
  · omega
  · have := hacc (by rw [← h]; intro e0; exact hem (by rw [e0]; rfl))
    omega

theorem readVardef_ok1 (buf : Array UInt8) : Consumes buf readVardef :=
  (skipSpaces_ok1 buf).bind_consumes fun _ => (pExpect_ok1 buf EQ (by decide)).bind fun _ =>
  (skipSpaces_ok1 buf).bind fun _ => Advances.peek fun _ => Advances.ite
    ((pExpect_ok1 buf NL (by decide)).advances.bind fun _ => Advances.pure _)
    ((readEval_ok1 buf false).advances.bind fun _ =>
      (pExpect_ok1 buf NL (by decide)).advances.bind fun _ => Advances.pure _)

theorem scopedVarsLoop_ok1 (buf : Array UInt8) (valid : Bytes → Bool) : ∀ (fuel : Nat) (vars : EvalMap)
    (s : Scanner), G buf s → buf.size - s.ofs < fuel →
    Ok1 buf.size (fun _ s' => G buf s' ∧ s.ofs ≤ s'.ofs) (scopedVarsLoop valid fuel vars s) := by
  intro fuel
  induction fuel with
  | zero => intro _ s _ h; exact absurd h (Nat.not_lt_zero _)
  | succ fuel ih =>
    intro vars s g hf
    unfold scopedVarsLoop
    refine ok1_peek g.w g.lt fun p hp => ok1_ifne (fun _ => ok1_pure ⟨g, Nat.le_refl _⟩) fun hsp => ?_
    subst hsp
    -- the leading space is consumed, so the loop advances
    refine ok1_bind (pScannerSkipSpaces_ok1 g) fun _ s2 ⟨g2, _, hadv⟩ => ?_
    have h2 := hadv hp
    refine ok1_then (readIdent_ok1 buf s2 g2) fun name s3 g3 h3 => ?_
    refine ok1_ite (fun _ => ok1_error g3.w.le) fun _ => ?_
    refine ok1_then (skipSpaces_ok1 buf s3 g3) fun _ s4 g4 h4 => ?_
    refine ok1_then (readVardef_ok1 buf s4 g4) fun val s5 g5 h5 => ?_
    have hlt5 : s.ofs < s5.ofs := by omega
    exact ok1_later (ih _ s5 g5 (fuel_succ g.lt hf hlt5)) (Nat.le_of_lt hlt5)

theorem readScopedVars_ok1 (buf : Array UInt8) (valid : Bytes → Bool) : Advances buf (readScopedVars valid) :=
  Advances.size fun s g => scopedVarsLoop_ok1 buf valid _ [] s g (fuel_init _ _)

/-- A block header: a name, the end of the line, then indented bindings. -/
theorem nameBlock_ok1 {β : Type} (buf : Array UInt8) (valid : Bytes → Bool) (f : Bytes → EvalMap → PM β)
    (hf : ∀ name vars, Advances buf (f name vars)) :
    Consumes buf (do let name ← readIdent; pExpect NL; let vars ← readScopedVars valid; f name vars) :=
  (readIdent_ok1 buf).bind fun name => (pExpect_ok1 buf NL (by decide)).advances.bind fun _ =>
  (readScopedVars_ok1 buf valid).bind fun vars => hf name vars

theorem readRule_ok1 (buf : Array UInt8) : Consumes buf readRule :=
  nameBlock_ok1 buf _ _ fun _ _ => Advances.pure _

theorem readPool_ok1 (buf : Array UInt8) : Consumes buf readPool := by
  refine nameBlock_ok1 buf _ _ fun name vars => ?_
  cases vars with
  | nil => exact Advances.pure _
  | cons v rest =>
    obtain ⟨k, val⟩ := v
    show Advances buf (match parseUsize (Eval.evaluate [] val) with
      | some d => pure (Stmt.pool name d) | none => pError "pool depth")
    cases parseUsize (Eval.evaluate [] val) with
    | some d => exact Advances.pure _
    | none => exact Advances.error

theorem pathsLoop_ok1 (buf : Array UInt8) : ∀ (fuel : Nat) (acc : List EvalStr) (s : Scanner), G buf s →
    buf.size - s.ofs < fuel → Ok1 buf.size (fun _ s' => G buf s' ∧ s.ofs ≤ s'.ofs) (pathsLoop fuel acc s) := by
  intro fuel
  induction fuel with
  | zero => intro _ s _ h; exact absurd h (Nat.not_lt_zero _)
  | succ fuel ih =>
    intro acc s g hf
    unfold pathsLoop
    refine ok1_peek g.w g.lt fun p _ => ok1_ite (fun _ => ok1_pure ⟨g, Nat.le_refl _⟩) fun _ => ?_
    refine ok1_then (readEval_ok1 buf true s g) fun e s1 g1 h1 => ?_
    refine ok1_then (skipSpaces_ok1 buf s1 g1) fun _ s2 g2 h2 => ?_
    have hlt2 : s.ofs < s2.ofs := Nat.lt_of_lt_of_le h1 h2
    exact ok1_later (ih _ s2 g2 (fuel_succ g.lt hf hlt2)) (Nat.le_of_lt hlt2)

theorem readPathsTo_ok1 (buf : Array UInt8) (acc : List EvalStr) : Advances buf (readPathsTo acc) :=
  (skipSpaces_ok1 buf).bind fun _ => Advances.size fun s g => pathsLoop_ok1 buf _ acc s g (fuel_init _ _)

/-- The optional sections of a `build` line share this shape: nothing unless a `|` follows, which
    is then consumed. -/
theorem optPipe_ok1 {buf : Array UInt8} {s : Scanner} (g : G buf s) (acc : List EvalStr) (rest : PM (List EvalStr))
    (h : buf[s.ofs]? = some PIPE → Ok1 buf.size (fun _ s' => G buf s' ∧ s.ofs ≤ s'.ofs) (rest (s.step PIPE))) :
    Ok1 buf.size (fun _ s' => G buf s' ∧ s.ofs ≤ s'.ofs)
      ((do let p ← pPeek; if p == PIPE then do pNext; rest else pure acc) s) := by
  refine ok1_peek g.w g.lt fun p hp => ok1_ifeq (fun hpipe => ?_) fun _ => ok1_pure ⟨g, Nat.le_refl _⟩
  subst hpipe
  rw [bind_eq (pNext_step g.w hp)]
  exact h hp

theorem readPathsTo_after {buf : Array UInt8} {s : Scanner} {c : UInt8} (g1 : G buf (s.step c)) (acc : List EvalStr) :
    Ok1 buf.size (fun _ s' => G buf s' ∧ s.ofs ≤ s'.ofs) (readPathsTo acc (s.step c)) :=
  ok1_later (readPathsTo_ok1 buf acc _ g1) (Nat.le_succ _)

theorem optImplicitOuts_ok1 (buf : Array UInt8) (outs : List EvalStr) : Advances buf (optImplicitOuts outs) :=
  fun _ g => optPipe_ok1 g _ _ fun hp => readPathsTo_after (G.step g.w hp (by decide)) outs

theorem optImplicit_ok1 (buf : Array UInt8) (ins : List EvalStr) : Advances buf (optImplicit ins) := by
  intro s g
  refine optPipe_ok1 g _ _ fun hp => ?_
  have g1 := G.step g.w hp (by decide)
  refine ok1_peek g1.w g1.lt fun q _ => ok1_ite (fun _ => ?_) fun _ => readPathsTo_after g1 ins
  exact ok1_bind (pBack_ok1 g hp) fun _ _ h => ok1_pure h

theorem optOrderOnly_ok1 (buf : Array UInt8) (ins : List EvalStr) : Advances buf (optOrderOnly ins) := by
  intro s g
  refine optPipe_ok1 g _ _ fun hp => ?_
  have g1 := G.step g.w hp (by decide)
  refine ok1_peek g1.w g1.lt fun q _ => ok1_ifeq (fun _ => ?_) fun _ => ?_
  · exact ok1_bind (pBack_ok1 g hp) fun _ _ h => ok1_pure h
  · refine ok1_then (pExpect_ok1 buf PIPE (by decide) _ g1) fun _ s2 g2 h2 => ?_
    exact ok1_later (readPathsTo_ok1 buf ins s2 g2) (Nat.le_of_lt (Nat.lt_of_succ_lt h2))

theorem optValidation_ok1 (buf : Array UInt8) (ins : List EvalStr) : Advances buf (optValidation ins) := by
  intro s g
  refine optPipe_ok1 g _ _ fun hp => ?_
  refine ok1_then (pExpect_ok1 buf AT (by decide) _ (G.step g.w hp (by decide))) fun _ s2 g2 h2 => ?_
  exact ok1_later (readPathsTo_ok1 buf ins s2 g2) (Nat.le_of_lt (Nat.lt_of_succ_lt h2))

theorem readBuild_ok1 (buf : Array UInt8) : Consumes buf readBuild := fun s g => by
  unfold readBuild
  rw [pLine_bind]
  exact ((readPathsTo_ok1 buf []).bind_consumes fun outs0 => (optImplicitOuts_ok1 buf outs0).bind_consumes fun _ =>
    (pExpect_ok1 buf COLON (by decide)).bind fun _ => (skipSpaces_ok1 buf).bind fun _ =>
    (readIdent_ok1 buf).advances.bind fun _ => (readPathsTo_ok1 buf []).bind fun ins0 =>
    (optImplicit_ok1 buf ins0).bind fun ins1 => (optOrderOnly_ok1 buf ins1).bind fun ins2 =>
    (optValidation_ok1 buf ins2).bind fun _ => (pExpect_ok1 buf NL (by decide)).advances.bind fun _ =>
    (readScopedVars_ok1 buf _).bind fun _ => Advances.pure _) s g

theorem readDefault_ok1 (buf : Array UInt8) : Consumes buf readDefault :=
  (readPathsTo_ok1 buf []).bind_consumes fun _ => Consumes.ite Consumes.error
    ((pExpect_ok1 buf NL (by decide)).bind fun _ => Advances.pure _)

theorem skipCommentLoop_ok1 (buf : Array UInt8) : ∀ (fuel : Nat) (s : Scanner), SW buf s → s.ofs < buf.size →
    buf.size - s.ofs < fuel →
    Ok1 buf.size (fun _ s' => G buf s' ∧ s.ofs ≤ s'.ofs ∧ (buf[s.ofs]? ≠ some NUL → s.ofs < s'.ofs))
      (skipCommentLoop fuel s) := by
  intro fuel
  induction fuel with
  | zero => intro s _ _ h; exact absurd h (Nat.not_lt_zero _)
  | succ fuel ih =>
    intro s w hlt hf
    unfold skipCommentLoop
    refine ok1_read w hlt fun c hc => ?_
    refine ok1_ifeq (fun h0 => ?_) fun h0 => ok1_ifeq (fun hnl => ?_) fun _ => ?_
    · subst h0
      -- stepping back over the NUL is a plain one-byte step
      have g : G buf s := ⟨w, hlt, ncr_of_ne hc (by decide)⟩
      exact ok1_of_eq (pBack_step g hc) ⟨g, Nat.le_refl _, fun hne => absurd hc hne⟩
    · subst hnl; exact ok1_pure ⟨G.step w hc ⟨h0, by decide⟩, Nat.le_succ _, fun _ => Nat.lt_succ_self _⟩
    · exact ok1_mono (ih _ (w.step hc) (w.step_lt hc h0) (fuel_succ hlt hf (Nat.lt_succ_self _)))
        fun _ _ h => ⟨h.1, Nat.le_of_succ_le h.2.1, fun _ => Nat.lt_of_succ_le h.2.1⟩

theorem skipComment_ok1 (buf : Array UInt8) (s : Scanner) (g : G buf s) :
    Ok1 buf.size (fun _ s' => G buf s' ∧ s.ofs ≤ s'.ofs ∧ (buf[s.ofs]? ≠ some NUL → s.ofs < s'.ofs)) (skipComment s) := by
  unfold skipComment
  rw [pSize_bind g.w]
  exact skipCommentLoop_ok1 buf _ s g.w g.lt (fuel_init _ _)

theorem readItem_ok1 (buf : Array UInt8) : ∀ (fuel : Nat) (s : Scanner), G buf s → buf.size - s.ofs < fuel →
    Ok1 buf.size (fun it s' => G buf s' ∧ s.ofs ≤ s'.ofs ∧ ((match it with | .eof => False | _ => True) → s.ofs < s'.ofs))
      (readItem fuel s) := by
  intro fuel
  induction fuel with
  | zero => intro s _ h; exact absurd h (Nat.not_lt_zero _)
  | succ fuel ih =>
    intro s g hf
    -- after a blank line or a comment the rest of the round is a round from a later position
    have again : ∀ s1, G buf s1 → s.ofs < s1.ofs → Ok1 buf.size (fun it s' => G buf s' ∧ s.ofs ≤ s'.ofs ∧
        ((match it with | .eof => False | _ => True) → s.ofs < s'.ofs)) (readItem fuel s1) := fun s1 g1 h1 =>
      ok1_mono (ih s1 g1 (fuel_succ g.lt hf h1)) fun _ _ h =>
        ⟨h.1, Nat.le_trans (Nat.le_of_lt h1) h.2.1, fun _ => Nat.lt_of_lt_of_le h1 h.2.1⟩
    unfold readItem
    refine ok1_peek g.w g.lt fun p hp => ?_
    refine ok1_ifeq (fun _ => ok1_pure ⟨g, Nat.le_refl _, False.elim⟩) fun h0 => ok1_ifeq (fun hnl => ?_) fun _ =>
      ok1_ifeq (fun hh => ?_) fun _ => ok1_ite (fun _ => ok1_error g.w.le) fun _ => ?_
    · subst hnl
      rw [bind_eq (pNext_step g.w hp)]
      exact again _ (G.step g.w hp nl_inner) (Nat.lt_succ_self _)
    · refine ok1_bind (skipComment_ok1 buf s g) fun _ s1 ⟨g1, _, hprog⟩ => ?_
      exact again s1 g1 (hprog fun e => h0 (Option.some.inj (hp.symm.trans e)))
    · refine ok1_then (readIdent_ok1 buf s g) fun ident s1 g1 h1 => ?_
      refine ok1_then (skipSpaces_ok1 buf s1 g1) fun _ s2 g2 h2 => ?_
      -- every kind of statement, and a binding, advances
      refine ok1_mono (P := fun _ s' => G buf s' ∧ s2.ofs < s'.ofs) ?_
        fun _ _ ⟨g3, h3⟩ => ⟨g3, by omega, fun _ => by omega⟩
      exact (Consumes.ite ((readRule_ok1 buf).map _) <| Consumes.ite ((readBuild_ok1 buf).map _) <|
        Consumes.ite ((readDefault_ok1 buf).map _) <| Consumes.ite ((readEval_ok1 buf false).map _) <|
        Consumes.ite ((readEval_ok1 buf false).map _) <| Consumes.ite ((readPool_ok1 buf).map _) <|
        (readVardef_ok1 buf).map _) s2 g2

/-- **The manifest parser is total**: from any position in good standing of any NUL-terminated
    buffer — in particular from the start of any file content — one round of `Parser::read`
    returns an item or a parse error.  Reading outside the buffer, stepping back before the start,
    wrapping the line counter and running out of fuel (a loop that does not advance) are
    unreachable; and every item other than end-of-file consumed at least one byte, so the
    statement loop terminates too. -/
theorem readItem_total (text : Bytes) :
    ∃ s0, Scanner.new (text ++ [NUL]).toArray = .ok s0 ∧
      ∀ s, G (text ++ [NUL]).toArray s →
        Ok1 (text ++ [NUL]).toArray.size (fun it s' => G (text ++ [NUL]).toArray s' ∧ s.ofs ≤ s'.ofs ∧
              ((match it with | .eof => False | _ => True) → s.ofs < s'.ofs))
          (readItem ((text ++ [NUL]).toArray.size + 1) s) ∧ G (text ++ [NUL]).toArray s0 :=
  ⟨_, new_nul text, fun s g => ⟨readItem_ok1 _ _ s g (fuel_init _ _), G.start text⟩⟩

end N2V.Parse
