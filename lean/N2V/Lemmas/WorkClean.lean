/-
  `check_build_dirty` on a step that is up to date: when every file the step names exists, the
  stat cache tells the truth, the generated files among its inputs have been stat()ed, and the
  recorded manifest is the manifest of the files as they are, the check answers "clean", changes
  nothing but the stat cache, and leaves the cache truthful.
-/
import N2V.Lemmas.WorkCheck
namespace N2V.Work
open N2V N2V.Load

/-- A phony step is never dirty; checking it stat()s its outputs. -/
theorem checkDirty_phony (e : Env) (b : Nat) (bm : BuildM) (hb : buildOf e.g b = some bm) (hc : Coh e)
    (hph : bm.cmdline.isNone = true) :
    (checkDirty e b).1 = some false ∧ Grew e (checkDirty e b).2 ∧ ∀ f ∈ bm.outs, Cached (checkDirty e b).2 f := by
  rw [checkDirty_phony_eq hb hph]
  exact ⟨rfl, statMany_grew hc bm.outs, fun f hf => statMany_cached.mpr (Or.inl hf)⟩

/-- `hash_build`'s input computed from the tree itself (not from the cache). -/
def manifestFs (e : Env) (bm : BuildM) (b : Nat) : Manifest :=
  let stamp (f : Nat) : Bytes × Nat := (fileName e.g f, (mtimeOf e f).getD 0)
  { ins := bm.dirtying.map stamp, disc := (discOf e b).map stamp, cmd := bm.cmdline.getD [],
    rsp := bm.rspfile, outs := bm.outs.map stamp }

theorem manifestOf_fresh (e : Env) (bm : BuildM) (b : Nat)
    (hfresh : ∀ f ∈ bm.dirtying ++ discOf e b ++ bm.outs, assocGet e.cache f = some (mtimeOf e f)) :
    manifestOf e bm b = manifestFs e bm b := by
  unfold manifestOf manifestFs
  have stamp_eq : ∀ f ∈ bm.dirtying ++ discOf e b ++ bm.outs,
      (fileName e.g f, ((assocGet e.cache f).getD none).getD 0) = (fileName e.g f, (mtimeOf e f).getD 0) :=
    fun f hf => by rw [hfresh f hf]; rfl
  simp only [Manifest.mk.injEq, true_and]
  exact ⟨List.map_congr_left (fun f hf => stamp_eq f (by simp [hf])),
    List.map_congr_left (fun f hf => stamp_eq f (by simp [hf])),
    List.map_congr_left (fun f hf => stamp_eq f (by simp [hf]))⟩

theorem manifestOf_eq_fs (e : Env) (bm : BuildM) (b : Nat) (hc : Coh e)
    (hcached : ∀ f ∈ bm.dirtying ++ discOf e b ++ bm.outs, Cached e f) :
    manifestOf e bm b = manifestFs e bm b :=
  manifestOf_fresh e bm b (fun f hf => by
    obtain ⟨m, h⟩ := cached_iff.mp (hcached f hf)
    rw [h, hc f m h])

theorem manifestFs_congr (e e' : Env) (bm : BuildM) (b : Nat) (hd : discOf e' b = discOf e b)
    (hn : ∀ f ∈ bm.dirtying ++ discOf e b ++ bm.outs, fileName e'.g f = fileName e.g f)
    (hm : ∀ f ∈ bm.dirtying ++ discOf e b ++ bm.outs, mtimeOf e' f = mtimeOf e f) :
    manifestFs e' bm b = manifestFs e bm b := by
  unfold manifestFs
  rw [hd]
  have stamp_eq : ∀ f ∈ bm.dirtying ++ discOf e b ++ bm.outs,
      (fileName e'.g f, (mtimeOf e' f).getD 0) = (fileName e.g f, (mtimeOf e f).getD 0) :=
    fun f hf => by rw [hn f hf, hm f hf]
  simp only [Manifest.mk.injEq, true_and]
  exact ⟨List.map_congr_left (fun f hf => stamp_eq f (by simp [hf])),
    List.map_congr_left (fun f hf => stamp_eq f (by simp [hf])),
    List.map_congr_left (fun f hf => stamp_eq f (by simp [hf]))⟩

theorem manifestFs_same {a b : Env} (h : SameButCache a b) (bm : BuildM) (x : Nat) :
    manifestFs b bm x = manifestFs a bm x :=
  manifestFs_congr a b bm x (discOf_same h x) (fun _ _ => by rw [h.g]) (fun f _ => mtimeOf_same h f)

/-- A step is up to date: every file it names exists and its record is the manifest of the
    files as they are. -/
structure UpToDate (e : Env) (b : Nat) (bm : BuildM) : Prop where
  present : ∀ f ∈ bm.dirtying ++ discOf e b ++ bm.outs, (mtimeOf e f).isSome = true
  recorded : assocGet e.hashes b = some (manifestFs e bm b)

theorem UpToDate.same {a b : Env} (h : SameButCache a b) {x : Nat} {bm : BuildM} (u : UpToDate a x bm) :
    UpToDate b x bm := by
  refine ⟨?_, ?_⟩
  · intro f hf
    rw [mtimeOf_same h]
    rw [discOf_same h] at hf
    exact u.present f hf
  · rw [h.hashes, manifestFs_same h]; exact u.recorded

/-- **An up-to-date step is found clean.**  The check changes nothing but the stat cache, which
    stays truthful and afterwards holds the step's outputs.  `hgen` keeps `ensure_input_files` off
    its error branch; in a run it holds because the producers of a step's inputs are dealt with
    before the step (`cleanCheck_upToDate`). -/
theorem checkDirty_upToDate (e : Env) (b : Nat) (bm : BuildM) (hb : buildOf e.g b = some bm) (hc : Coh e)
    (u : UpToDate e b bm)
    (hgen : ∀ f ∈ bm.dirtying ++ discOf e b, (fileInput e.g f).isSome = true → Cached e f) :
    (checkDirty e b).1 = some false ∧ Grew e (checkDirty e b).2 ∧
    ∀ f ∈ bm.outs, Cached (checkDirty e b).2 f := by
  cases hph : bm.cmdline.isNone with
  | true => exact checkDirty_phony e b bm hb hc hph
  | false =>
    -- the three stat rounds of `check_build_files_missing`
    obtain ⟨e1, h1, g1, c1⟩ := ensureInputs_present bm.dirtying e hc
      (fun f hf => u.present f (by simp [hf])) (fun f hf => hgen f (by simp [hf]))
    have hd1 : discOf e1 b = discOf e b := discOf_same g1.toSameButCache b
    obtain ⟨e2, h2, g2, c2⟩ := ensureInputs_present (discOf e1 b) e1 g1.coh
      (fun f hf => by rw [mtimeOf_same g1.toSameButCache]; exact u.present f (by rw [hd1] at hf; simp [hf]))
      (fun f hf hg => g1.mono f (hgen f (by rw [hd1] at hf; simp [hf]) (by rw [g1.g] at hg; exact hg)))
    have hfm := filesMissing_of_ok h1 h2
    have g12 := g1.trans g2
    have hout : (statAllOutputs e2 bm.outs).1 = none := (statAllOutputs_fst_none e2 bm.outs).mpr
      (fun f hf => by rw [mtimeOf_same g12.toSameButCache]; exact u.present f (by simp [hf]))
    rw [hout, statAllOutputs_snd] at hfm
    have g13 : Grew e (statMany e2 bm.outs) := g12.trans (statMany_grew g2.coh bm.outs)
    have c3 : ∀ f ∈ bm.outs, Cached (statMany e2 bm.outs) f := fun f hf => statMany_cached.mpr (Or.inl hf)
    have hcd : (checkDirty e b).2 = statMany e2 bm.outs := by rw [checkDirty_env hb hph, hfm]
    rw [hcd]
    refine ⟨(checkDirty_clean_iff hb hph).mpr ?_, g13, c3⟩
    rw [hfm]
    refine ⟨rfl, ?_⟩
    rw [g13.hashes, u.recorded, manifestOf_eq_fs _ bm b g13.coh, manifestFs_same g13.toSameButCache]
    intro f hf
    rw [discOf_same g13.toSameButCache] at hf
    simp only [List.mem_append] at hf
    rcases hf with (hf | hf) | hf
    · exact statMany_cached.mpr (Or.inr (g2.mono f (c1 f hf)))
    · exact statMany_cached.mpr (Or.inr (c2 f (by rw [hd1]; exact hf)))
    · exact c3 f hf

end N2V.Work
