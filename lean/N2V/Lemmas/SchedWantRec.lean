/-
  Induction over the want phase.  `wantFile` / `wantBuild` / `wantIns` (`want_file`, `want_build`
  and its loop over a list of inputs) recurse into one another, so a fact about all their calls
  takes one induction on the fuel with a case analysis of the three bodies.  It is made here once.
  `WantOk g F B I` has one field for each way a successful call of one of the three returns, and
  `WantOk.all` concludes `F`, `B`, `I` of every successful call; `WantErr` does the same for the
  calls that end in a dependency-cycle error.  A field gives the sub-calls as equations next to
  the induction hypotheses about them, so that an instance can use what is already known of those
  calls.  `wantVals` has no predicate of its own: it is `wantIns` with an empty stack
  (`wantVals_eq`).
-/
import N2V.Model.Sched
namespace N2V.Sched

def WR.void {α : Type} : WR α → WR Unit
  | .ok _ s => .ok () s
  | .err m s => .err m s
  | .bad m => .bad m

theorem WR.void_ok {α : Type} {w : WR α} {s : S} : w.void = .ok () s ↔ ∃ a, w = .ok a s := by
  cases w <;> simp [WR.void]

theorem WR.void_err {α : Type} {w : WR α} {m : String} {s : S} : w.void = .err m s ↔ w = .err m s := by
  cases w <;> simp [WR.void]

theorem want_eq (g : Graph) (s : S) (f : Nat) : want g s f = (wantFile g (wantFuel g) s [] f).void := by
  unfold want; cases wantFile g (wantFuel g) s [] f <;> rfl

/-- The loop over validation inputs is the loop over ordering inputs with an empty stack, its
    `ready` flag dropped. -/
theorem wantVals_eq (g : Graph) (fuel : Nat) (s : S) (fs : List Nat) (rd : Bool) :
    wantVals g fuel s fs = (wantIns g fuel s [] fs rd).void := by
  induction fuel generalizing s fs rd with
  | zero => rfl
  | succ fuel ih =>
    cases fs with
    | nil => rfl
    | cons f fs =>
      simp only [wantVals, wantIns]
      cases wantFile g fuel s [] f with
      | ok r s' => exact ih s' fs (rd && r)
      | _ => rfl

variable {g : Graph}

/-- `F s stack f r s'`: `wantFile` on `f`, from state `s` with cycle stack `stack`, returned `r` and
    the state `s'`.  `B s stack id st s'`: the same for `wantBuild`.  `I s stack fs rd r s'`: the
    same for `wantIns` over `fs`, entered with the `ready` flag `rd`.  One field for each way such
    a call returns; `build` covers both loops of `want_build`, the ordering inputs under the
    caller's stack and, after the `set`, the validation inputs under an empty one. -/
structure WantOk (g : Graph) (F : S → List Nat → Nat → Bool → S → Prop)
    (B : S → List Nat → Nat → St → S → Prop) (I : S → List Nat → List Nat → Bool → Bool → S → Prop) : Prop where
  leaf : ∀ {s stack f}, g.producer f = none → F s stack f true s
  file : ∀ {n s stack f b st s'}, g.producer f = some b → wantBuild g n s (stack ++ [f]) b = .ok st s' →
    B s (stack ++ [f]) b st s' → F s stack f (st == .done) s'
  known : ∀ {s stack id}, s.st id ≠ .unknown → B s stack id (s.st id) s
  build : ∀ {n s stack id rd s1 s2 r s3}, s.st id = .unknown →
    wantIns g n s stack (g.build id).ordering true = .ok rd s1 → I s stack (g.build id).ordering true rd s1 →
    set g s1 id (if rd then .ready else .want) = .ok s2 →
    wantIns g n s2 [] (g.build id).validation true = .ok r s3 → I s2 [] (g.build id).validation true r s3 →
    B s stack id (if rd then .ready else .want) s3
  nil : ∀ {s stack rd}, I s stack [] rd rd s
  cons : ∀ {n s stack f fs rd r s1 r' s2}, wantFile g n s stack f = .ok r s1 → F s stack f r s1 →
    wantIns g n s1 stack fs (rd && r) = .ok r' s2 → I s1 stack fs (rd && r) r' s2 → I s stack (f :: fs) rd r' s2

theorem WantOk.all {F : S → List Nat → Nat → Bool → S → Prop} {B : S → List Nat → Nat → St → S → Prop}
    {I : S → List Nat → List Nat → Bool → Bool → S → Prop} (h : WantOk g F B I) (n : Nat) :
    (∀ {s stack f r s'}, wantFile g n s stack f = .ok r s' → F s stack f r s') ∧
    (∀ {s stack id st s'}, wantBuild g n s stack id = .ok st s' → B s stack id st s') ∧
    (∀ {s stack fs rd r s'}, wantIns g n s stack fs rd = .ok r s' → I s stack fs rd r s') := by
  induction n with
  | zero => exact ⟨fun e => (nomatch e), fun e => (nomatch e), fun e => (nomatch e)⟩
  | succ n ih =>
    obtain ⟨ihF, ihB, ihI⟩ := ih
    refine ⟨?_, ?_, ?_⟩
    · intro s stack f r s' e
      unfold wantFile at e
      split at e
      · cases e
      · split at e
        · rename_i hp; cases e; exact h.leaf hp
        · rename_i b hp
          split at e <;> cases e
          rename_i st _ hb
          exact h.file hp hb (ihB hb)
    · intro s stack id st s' e
      unfold wantBuild at e
      split at e
      · rename_i hk; cases e; exact h.known hk
      · rename_i hu
        split at e
        · rename_i rd s1 e1
          simp only [] at e
          split at e
          · rename_i s2 hs
            split at e <;> cases e
            rename_i u ev
            rw [wantVals_eq g n s2 _ true, WR.void_ok] at ev
            obtain ⟨r, e2⟩ := ev
            exact h.build (by simpa using hu) e1 (ihI e1) hs e2 (ihI e2)
          · cases e
          · cases e
        · cases e
        · cases e
    · intro s stack fs rd r s' e
      cases fs with
      | nil => simp only [wantIns] at e; cases e; exact h.nil
      | cons f fs =>
        simp only [wantIns] at e
        split at e
        · rename_i r1 s1 e1; exact h.cons e1 (ihF e1) e (ihI e)
        · cases e
        · cases e

section
variable {F : S → List Nat → Nat → Bool → S → Prop} {B : S → List Nat → Nat → St → S → Prop}
  {I : S → List Nat → List Nat → Bool → Bool → S → Prop} (h : WantOk g F B I)
include h

theorem WantOk.of_file {n s stack f r s'} (e : wantFile g n s stack f = .ok r s') : F s stack f r s' :=
  (h.all n).1 e

theorem WantOk.of_build {n s stack id st s'} (e : wantBuild g n s stack id = .ok st s') : B s stack id st s' :=
  (h.all n).2.1 e

theorem WantOk.of_ins {n s stack fs rd r s'} (e : wantIns g n s stack fs rd = .ok r s') : I s stack fs rd r s' :=
  (h.all n).2.2 e

theorem WantOk.of_vals {n s fs s'} (e : wantVals g n s fs = .ok () s') : ∃ r, I s [] fs true r s' := by
  rw [wantVals_eq g n s fs true, WR.void_ok] at e
  exact e.imp fun _ => h.of_ins

theorem WantOk.of_want {s f s'} (e : want g s f = .ok () s') : ∃ r, F s [] f r s' := by
  rw [want_eq, WR.void_ok] at e
  exact e.imp fun _ => h.of_file

end

/-- `WantOk` for the calls that stop with a dependency-cycle error: the predicates take the message
    in place of the value.  Sub-calls that succeeded come as equations only. -/
structure WantErr (g : Graph) (F B : S → List Nat → Nat → String → S → Prop)
    (I : S → List Nat → List Nat → String → S → Prop) : Prop where
  cycle : ∀ {s stack f i}, stack.idxOf? f = some i → F s stack f (cycleMessage g (stack.drop i) f) s
  file : ∀ {s stack f b m s'}, g.producer f = some b → B s (stack ++ [f]) b m s' → F s stack f m s'
  ordering : ∀ {s stack id m s'}, s.st id = .unknown → I s stack (g.build id).ordering m s' → B s stack id m s'
  validation : ∀ {n s stack id rd s1 s2 m s'}, s.st id = .unknown →
    wantIns g n s stack (g.build id).ordering true = .ok rd s1 →
    set g s1 id (if rd then .ready else .want) = .ok s2 → I s2 [] (g.build id).validation m s' →
    B s stack id m s'
  head : ∀ {s stack f fs m s'}, F s stack f m s' → I s stack (f :: fs) m s'
  tail : ∀ {n s stack f fs r s1 m s'}, wantFile g n s stack f = .ok r s1 → I s1 stack fs m s' →
    I s stack (f :: fs) m s'

theorem WantErr.all {F B : S → List Nat → Nat → String → S → Prop}
    {I : S → List Nat → List Nat → String → S → Prop} (h : WantErr g F B I) (n : Nat) :
    (∀ {s stack f m s'}, wantFile g n s stack f = .err m s' → F s stack f m s') ∧
    (∀ {s stack id m s'}, wantBuild g n s stack id = .err m s' → B s stack id m s') ∧
    (∀ {s stack fs rd m s'}, wantIns g n s stack fs rd = .err m s' → I s stack fs m s') := by
  induction n with
  | zero => exact ⟨fun e => (nomatch e), fun e => (nomatch e), fun e => (nomatch e)⟩
  | succ n ih =>
    obtain ⟨ihF, ihB, ihI⟩ := ih
    refine ⟨?_, ?_, ?_⟩
    · intro s stack f m s' e
      unfold wantFile at e
      split at e
      · rename_i i hi; cases e; exact h.cycle hi
      · split at e
        · cases e
        · rename_i b hp
          split at e <;> cases e
          rename_i hb
          exact h.file hp (ihB hb)
    · intro s stack id m s' e
      unfold wantBuild at e
      split at e
      · cases e
      · rename_i hu
        have hu : s.st id = .unknown := by simpa using hu
        split at e
        · rename_i rd s1 e1
          simp only [] at e
          split at e
          · rename_i s2 hs
            split at e <;> cases e
            rename_i ev
            rw [wantVals_eq g n s2 _ true, WR.void_err] at ev
            exact h.validation hu e1 hs (ihI ev)
          · cases e
          · cases e
        · rename_i e1; cases e; exact h.ordering hu (ihI e1)
        · cases e
    · intro s stack fs rd m s' e
      cases fs with
      | nil => simp only [wantIns] at e; cases e
      | cons f fs =>
        simp only [wantIns] at e
        split at e
        · rename_i r1 s1 e1; exact h.tail e1 (ihI e)
        · rename_i e1; cases e; exact h.head (ihF e1)
        · cases e

theorem WantErr.of_want {F B : S → List Nat → Nat → String → S → Prop}
    {I : S → List Nat → List Nat → String → S → Prop} (h : WantErr g F B I) {s f m s'}
    (e : want g s f = .err m s') : F s [] f m s' :=
  (h.all _).1 (WR.void_err.mp (want_eq g s f ▸ e))

end N2V.Sched
