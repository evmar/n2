/-
  Vocabulary shared by the trace specification (TraceSpec), the monitors the driver evaluates
  (Monitors) and the proofs: counting builds in a class, the states that count as pending, the
  start/finish skeleton of a trace and the `-k` budget read off it.
-/
import N2V.Model.Sched
namespace N2V.Sched

def cnt (n : Nat) (p : Nat → Bool) : Nat := ((List.range n).filter p).length

def active (x : St) : Bool := x == .want || x == .ready || x == .queued || x == .running

def sf : List Ev → List Ev
  | [] => []
  | .start b :: tr => .start b :: sf tr
  | .finish b t :: tr => .finish b t :: sf tr
  | .load :: tr => .load :: sf tr
  | _ :: tr => sf tr

/-- Commands that failed / succeeded / whether one was interrupted, since the last (re)load. -/
def fails : List Ev → Nat
  | [] => 0
  | .load :: _ => 0
  | .finish _ .failure :: tr => fails tr + 1
  | _ :: tr => fails tr

def succs : List Ev → Nat
  | [] => 0
  | .load :: _ => 0
  | .finish _ .success :: tr => succs tr + 1
  | _ :: tr => succs tr

def intr : List Ev → Bool
  | [] => false
  | .load :: _ => false
  | .finish _ .interrupted :: _ => true
  | _ :: tr => intr tr

/-- May a command be started after the history `tr`?  Fewer failures than the `-k` budget and no
    interruption. -/
def budgetOk (k : Option Nat) (tr : List Ev) : Bool :=
  (match k with | some k0 => decide (fails tr < k0) | none => true) && !intr tr

/-- Every `start` in the trace respected the budget when it happened. -/
def bT (k : Option Nat) : List Ev → Bool
  | [] => true
  | .start _ :: tr => budgetOk k tr && bT k tr
  | _ :: tr => bT k tr

/-- The decidable trace predicate the `budgetSpec` monitor evaluates. -/
def budgetTrace (k : Option Nat) (tr : List Ev) : Bool := bT k (sf tr)

end N2V.Sched
