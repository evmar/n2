/-
  Loading is total: for every file system content and manifest name, `load::read` (up to opening
  the log) returns a loader or one of its diagnostics.  The internal outcomes of the model — a
  read outside a buffer, an unknown file id, a panic in path canonicalisation, a loop that runs out
  of fuel — are unreachable.
-/
import N2V.Lemmas.LoadInv
import N2V.Lemmas.ParseTotal
import N2V.Lemmas.CanonBase
namespace N2V.Load
open N2V N2V.Scanner N2V.Eval N2V.Parse
open N2V.Depfile (G)

/-- The errors `load::read` reports to the user. -/
def Diagnosed : LoadErr → Prop
  | .parse _ _ ofs view => ∃ buf : Array UInt8, ofs ≤ buf.size ∧ view = formatParseError buf ofs
  | .dupOutput _ _ _ => True
  | .other k => k ∈ ["empty path", "read", "include nesting", "unknown rule", "invalid deps attribute",
      "rspfile and rspfile_content need to be both specified"]

def TotalR {α : Type} (P : α → Prop) : Except LoadErr α → Prop
  | .ok a => P a
  | .error e => Diagnosed e

theorem path_total (l : Loader) (p : Bytes) (e : LoadErr) (h : path l p = .error e) : Diagnosed e := by
  unfold path at h
  split at h
  · cases h; simp [Diagnosed]
  · rename_i hne
    have hp : p ≠ [] := by intro e; subst e; simp at hne
    obtain ⟨c, hc⟩ := Canon.canon_ok hp
    rw [hc] at h
    simp at h

theorem evalPaths_total (envs : List Env) (ps : List EvalStr) : ∀ (l : Loader) (e : LoadErr),
    evalPaths l envs ps = .error e → Diagnosed e := by
  induction ps with
  | nil => intro l e h; simp [evalPaths] at h
  | cons p ps ih =>
    intro l e h
    unfold evalPaths at h
    split at h
    · rename_i e' hp; cases h; exact path_total _ _ _ hp
    · split at h
      · rename_i e' hps; cases h; exact ih _ _ hps
      · cases h

theorem claimOuts_total (newId : Nat) (loc : Loc) (builds : List BuildM) (os : List Nat) :
    ∀ (files : List FileM) (dup : Nat) (e : LoadErr), (∀ o ∈ os, o < files.length) →
    claimOuts newId loc builds os files dup = .error e → Diagnosed e := by
  induction os with
  | nil => intro files dup e _ h; simp [claimOuts] at h
  | cons o rest ih =>
    intro files dup e hlt h
    unfold claimOuts at h
    have ho : o < files.length := hlt o (by simp)
    have hx : files[o]? = some files[o] := by simp [ho]
    rw [hx] at h
    simp only [] at h
    split at h
    · split at h
      · exact ih files _ e (fun o' ho' => hlt o' (by simp [ho'])) h
      · cases h; trivial
    · exact ih _ _ e (fun o' ho' => by rw [modFile_len]; exact hlt o' (by simp [ho'])) h

theorem addBuild_total (g : GraphM) (b : BuildM) (e : LoadErr) (houts : ∀ o ∈ b.outs, o < g.files.length)
    (h : addBuild g b = .error e) : Diagnosed e := by
  unfold addBuild at h
  simp only [] at h
  split at h
  · rename_i e' hc
    cases h
    refine claimOuts_total _ _ _ _ _ _ _ ?_ hc
    intro o ho
    rw [(insFold_spec g.builds.length b.ins g.files).1]
    exact houts o ho
  · cases h

theorem loaderAddBuild_total (l : Loader) (file : Bytes) (vars : StrMap) (b : PBuild) (e : LoadErr)
    (inv : GInv l.graph) (h : loaderAddBuild l file vars b = .error e) : Diagnosed e := by
  unfold loaderAddBuild at h
  simp only [] at h
  split at h
  · rename_i e' h1; cases h; exact evalPaths_total _ _ _ _ h1
  · rename_i l1 ins h1
    split at h
    · rename_i e' h2; cases h; exact evalPaths_total _ _ _ _ h2
    · rename_i l2 outs h2
      obtain ⟨a1, _, _⟩ := evalPaths_inv _ _ l l1 ins inv h1
      obtain ⟨_, _, b3⟩ := evalPaths_inv _ _ l1 l2 outs a1 h2
      split at h
      · cases h; simp [Diagnosed]
      · split at h
        · cases h; simp [Diagnosed]
        · split at h
          · rename_i e' hr
            cases h
            -- the rspfile pair
            split at hr
            · cases hr
            · cases hr
            · cases hr; simp [Diagnosed]
          · split at h
            · rename_i e' hab
              cases h
              exact addBuild_total l2.graph _ _ b3 hab
            · cases h

abbrev LoaderOK (r : Loader × StrMap) : Prop := GInv r.1.graph

section
variable {ie : Bool} {fs : Fs} {file : Bytes} {depth : Nat}
  {sub : Loader → Bytes → Bytes → StrMap → Nat → Except LoadErr (Loader × StrMap)}

theorem applyItem_total
    (hsub : ∀ l name content vars d, GInv l.graph → TotalR LoaderOK (sub l name content vars d))
    {l : Loader} {vars : StrMap} {it : Item} {e : LoadErr} (inv : GInv l.graph) (hne : it ≠ .eof)
    (h : applyItem ie fs depth sub file l vars it = .error e) : Diagnosed e := by
  cases it with
  | eof => exact absurd rfl hne
  | binding name val => cases h
  | stmt st =>
    cases st with
    | rule name rvars => cases h
    | pool name d => cases h
    | build b =>
      simp only [applyItem] at h
      split at h
      · rename_i e' hb; cases h; exact loaderAddBuild_total l file vars b _ inv hb
      · cases h
    | default ps =>
      simp only [applyItem] at h
      split at h
      · rename_i e' hp; cases h; exact evalPaths_total _ _ _ _ hp
      · cases h
    | «include» p | subninja p =>
      simp only [applyItem] at h
      split at h
      · rename_i e' hp; cases h; exact path_total _ _ _ hp
      · rename_i l1 id hp
        split at h
        · cases h; simp [Diagnosed]
        · split at h
          · cases h; simp [Diagnosed]
          · rename_i content _ _
            have hs := hsub l1 ((l1.graph.files[id]?.map (·.name)).getD []) content vars (depth + 1)
              (path_inv l _ l1 id inv hp).1
            split at h
            · rename_i e' he; cases h; rw [he] at hs; exact hs
            · cases h

theorem stmtLoop_total
    (hsub : ∀ l name content vars d, GInv l.graph → TotalR LoaderOK (sub l name content vars d))
    (buf : Array UInt8) :
    ∀ (fuel : Nat) (l : Loader) (sc : Scanner) (vars : StrMap),
    GInv l.graph → G buf sc → buf.size - sc.ofs < fuel →
    TotalR LoaderOK (stmtLoop ie fs file depth sub fuel l sc vars) := by
  intro fuel
  induction fuel with
  | zero => intro l sc vars _ _ h; exact absurd h (by omega)
  | succ fuel ih =>
    intro l sc vars inv g hf
    rcases (readItem_ok1 buf (sc.buf.size + 1) sc g (by rw [g.w.hb]; exact fuel_init _ _)).perr_or_ok with
      ⟨msg, ofs, hri, ho⟩ | ⟨it, sc', hri, g', _, hadv⟩
    · rw [stmtLoop_perr hri]
      exact ⟨sc.buf, by rw [g.w.hb]; exact ho, rfl⟩
    by_cases he : it = .eof
    · subst he; rw [stmtLoop_eof hri]; exact inv
    · rw [stmtLoop_item hri he]
      cases hap : applyItem ie fs depth sub file l vars it with
      | error e => exact applyItem_total hsub inv he hap
      | ok r =>
        have hsub' : ∀ l name content vars d l' v', GInv l.graph → sub l name content vars d = .ok (l', v') →
            GInv l'.graph := fun l name content vars d l' v' hi hs => by
          have := hsub l name content vars d hi; rw [hs] at this; exact this
        have hlt : sc.ofs < sc'.ofs := hadv (by cases it with | eof => exact he rfl | _ => trivial)
        exact ih _ _ _ (applyItem_inv hsub' inv hap) g' (fuel_succ g.lt hf hlt)

end

theorem parseFile_total (ie : Bool) (fs : Fs) : ∀ (d : Nat) (l : Loader) (file content : Bytes) (vars : StrMap)
    (depth : Nat), GInv l.graph → TotalR LoaderOK (parseFile ie fs d l file content vars depth) := by
  intro d
  induction d with
  | zero => intro l file content vars depth _; simp [parseFile, TotalR, Diagnosed]
  | succ d ih =>
    intro l file content vars depth inv
    unfold parseFile
    simp only []
    rw [new_nul content]
    simp only []
    exact stmtLoop_total ih (content ++ [NUL]).toArray _ l _ vars inv (G.start content) (fuel_init _ _)

/-- **Every input is either loaded or rejected with a diagnostic** (the whole of `load::read` up to
    opening the log): for every file system content and manifest name the result is a loader — whose
    graph has consistent cross references — or one of the errors n2 reports: a parse error, a duplicate
    output, an empty path, an unreadable file, too deep include nesting, an unknown rule, a bad `deps`
    value, an unpaired `rspfile`. -/
theorem load_total (ie : Bool) (fs : Fs) (main : Bytes) :
    TotalR (fun l => GInv l.graph) (loadWith ie fs main) := by
  unfold loadWith
  split
  · simp [TotalR, Diagnosed]
  · rename_i hne
    have hp : main ≠ [] := by intro e; subst e; simp at hne
    obtain ⟨c, hc⟩ := Canon.canon_ok hp
    rw [hc]
    simp only []
    split
    · simp [TotalR, Diagnosed]
    · rename_i content hfs
      have hs := idFromCanonical_spec {} c ginv_empty
      simp only [] at hs
      have ht := parseFile_total ie fs (MAX_INCLUDE_DEPTH + 2) { graph := (idFromCanonical {} c).1 }
        (((idFromCanonical {} c).1.files[(idFromCanonical {} c).2]?.map (·.name)).getD [])
        content [] 0 hs.1
      revert ht
      generalize parseFile ie fs (MAX_INCLUDE_DEPTH + 2) _ _ content [] 0 = r
      intro ht
      cases r with
      | error e => exact ht
      | ok v => exact ht

/-- **Every loaded manifest yields a consistent graph** — for every file system content, main file
    name, nesting of `include`/`subninja`. -/
theorem load_inv (ie : Bool) (fs : Fs) (main : Bytes) (l : Loader) (h : loadWith ie fs main = .ok l) :
    GInv l.graph := by
  have ht := load_total ie fs main
  rwa [h] at ht

end N2V.Load
