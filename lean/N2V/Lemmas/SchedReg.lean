/-
  `Work::run` never reaches its BUG panic.  Only the builds that are marked (have left `Unknown`)
  need to be ranked (`RegAcyc`): `Work::run` never marks a new build, so the hypothesis
  travels along a run, and success of the want phase provides it (Lemmas/SchedAcyclic), so that
  whole invocations need no hypothesis on the graph.  Global acyclicity is the special case
  `RegAcyc.of_global`.
-/
import N2V.Lemmas.SchedAcyclic
namespace N2V.Sched

/-- The marked builds have a rank that decreases along ordering edges. -/
def RegAcyc (g : Graph) (s : S) : Prop :=
  ∃ rank : Nat → Nat, ∀ b f p, s.st b ≠ .unknown → f ∈ (g.build b).ordering → g.producer f = some p → rank p < rank b

theorem RegAcyc.of_keeps {g : Graph} {s s' : S} (h : RegAcyc g s) (k : Keeps s s') : RegAcyc g s' := by
  obtain ⟨rank, hr⟩ := h
  exact ⟨rank, fun b f p hb hf hp => hr b f p (k b hb) hf hp⟩

theorem RegAcyc.of_global {g : Graph} (h : Acyclic g) (s : S) : RegAcyc g s := by
  obtain ⟨rank, hr⟩ := h
  exact ⟨rank, fun b f p _ hf hp => hr b f p hf hp⟩

theorem cnt_pos_exists (n : Nat) (p : Nat → Bool) (h : 0 < cnt n p) : ∃ b, b < n ∧ p b = true := by
  obtain ⟨b, hb⟩ := List.exists_mem_of_length_pos h
  rw [List.mem_filter, List.mem_range] at hb
  exact ⟨b, hb⟩

theorem recheckReady_false (g : Graph) (s : S) (b : Nat) (h : recheckReady g s b = false) :
    ∃ f ∈ (g.build b).ordering, ∃ p, g.producer f = some p ∧ s.st p ≠ .done := by
  obtain ⟨f, hf, hp⟩ := List.all_eq_false.mp h
  cases hq : g.producer f with
  | none => simp [hq] at hp
  | some p => exact ⟨f, hf, p, hq, by simpa [hq] using hp⟩

variable {g : Graph} {par : Nat}

/-- With nothing ready, nothing startable, nothing running and nothing failed, every marked
    build is `Want` or `Done`. -/
theorem idle_want_or_done {s : S} (inv : Inv g par s) (pi : PInv g s) (hpar : 0 < par)
    (hready : s.ready = []) (hpop : ¬ s.running < par ∨ popQueued s.pools = none)
    (hrun : s.running ≤ 0) (htf : s.tasksFailed = 0) (b : Nat) :
    s.st b = .unknown ∨ s.st b = .want ∨ s.st b = .done := by
  have hcr : cnt g.nBuilds (fun b => s.st b == .running) = 0 := by
    have := inv.running; omega
  have hnorun : ∀ b, s.st b ≠ .running := by
    intro b hb
    have := cnt_eq_zero_iff.mp hcr b (inv.valid b (by rw [hb]; simp))
    simp [hb] at this
  -- hence every pool has room, and `pop_queued` finding nothing means the queues are empty
  have hpopn : popQueued s.pools = none :=
    hpop.resolve_left (fun h => h (by have := inv.running; omega))
  cases hsb : s.st b with
  | unknown => exact .inl rfl
  | want => exact .inr (.inl rfl)
  | done => exact .inr (.inr rfl)
  | ready => have := pi.rdy b hsb; rw [hready] at this; cases this
  | running => exact absurd hsb (hnorun b)
  | failed => have := pi.fld b hsb; omega
  | queued =>
    obtain ⟨p, hp, hbp⟩ := pi.que b hsb
    have hz : cnt g.nBuilds (fun b => s.st b == .running && (g.build b).pool == p.name) = 0 :=
      cnt_eq_zero_iff.mpr fun x _ => by simp [hnorun x]
    have hroom : p.depth = 0 ∨ p.running < p.depth := by
      have := inv.poolRunning p hp; omega
    rw [popQueued_eq_none.mp hpopn p hp hroom] at hbp; cases hbp

/-- **The situation in which n2 would panic with `BUG: no work to do and runner not running`
    cannot arise** when the marked builds are acyclic: something pending, nothing ready, nothing
    startable, nothing running, nothing failed. -/
theorem no_stall_reg {g : Graph} {par : Nat} {s : S} (inv : Inv g par s) (pi : PInv g s) (acyc : RegAcyc g s)
    (hpar : 0 < par) (hpend : ¬ s.pending ≤ 0) (hready : s.ready = [])
    (hpop : ¬ s.running < par ∨ popQueued s.pools = none) (hrun : s.running ≤ 0)
    (htf : s.tasksFailed = 0) : False := by
  have idle := idle_want_or_done inv pi hpar hready hpop hrun htf
  -- a `Want` build waits for a producer that is not `Done`: that one is `Want` too, and ranks lower
  obtain ⟨rank, hrank⟩ := acyc
  have hnow : ∀ n b, rank b = n → s.st b ≠ .want := by
    intro n
    induction n using Nat.strongRecOn with
    | _ n ih =>
      intro b hb hw
      have hm : s.st b ≠ .unknown := by rw [hw]; simp
      obtain ⟨f, hf, p, hp, hnd⟩ := recheckReady_false g s b (pi.wnt b hw)
      rcases idle p with h | h | h
      · exact pi.clo b hm f hf p hp h
      · exact ih (rank p) (hb ▸ hrank b f p hm hf hp) p rfl h
      · exact hnd h
  -- but something is pending
  have hpos : 0 < cnt g.nBuilds (fun b => active (s.st b)) := by
    have := inv.pending; omega
  obtain ⟨b, _, hb⟩ := cnt_pos_exists _ _ hpos
  rcases idle b with h | h | h
  · rw [h] at hb; cases hb
  · exact hnow _ b rfl h
  · rw [h] at hb; cases hb

/-- With nothing pending and nothing failed, every build is untouched or `Done`. -/
theorem settled_of {s : S} (inv : Inv g par s) (pi : PInv g s) (hp : s.pending ≤ 0)
    (htf : s.tasksFailed = 0) (b : Nat) : s.st b = .unknown ∨ s.st b = .done := by
  have hz : cnt g.nBuilds (fun b => active (s.st b)) = 0 := by
    have := inv.pending; omega
  cases hs : s.st b with
  | unknown => exact Or.inl rfl
  | done => exact Or.inr rfl
  | failed => have := pi.fld b hs; omega
  | _ =>
    exfalso
    have := cnt_eq_zero_iff.mp hz b (inv.valid b (by rw [hs]; simp))
    simp [hs, active] at this

variable {E : Type} {c : Choices E}

/-- **`Work::run` never reaches its `BUG` panic** when the marked builds are acyclic. -/
theorem runLoop_no_bug_reg {E : Type} {g : Graph} {par : Nat} (dok : DepsOK g) (hpar : 0 < par)
    (c : Choices E) (fuel : Nat) (s : S) (e : E) (perms : List (List Nat)) (fin : List (Nat × Term))
    (inv : Inv g par s) (pi : PInv g s) (acyc : RegAcyc g s) :
    (runLoop g par c fuel s e perms fin).result ≠ .bug ∧
    ((runLoop g par c fuel s e perms fin).result = .ok true → PInv g (runLoop g par c fuel s e perms fin).s) := by
  obtain ⟨s', e', hs, he⟩ := runLoop_spec (g := g) (par := par) (c := c) fuel s e perms fin
  have i' := hs.inv inv
  have p' : PInv g s' := hs.induct (P := fun s _ => PInv g s) inv pi (fun i p st => st.pinv dok i p)
  constructor
  · intro hb
    rw [hb] at he
    obtain ⟨-, -, hp, hrd, hq, hrun, htf⟩ := he.bug
    exact no_stall_reg i' p' (acyc.of_keeps (hs.keeps inv)) hpar hp hrd hq hrun htf
  · intro hok
    rw [hok] at he
    rw [he.ok_true.1]; exact p'

/-- **`Work::run` never reaches its `BUG` panic** on an acyclic graph with `-j ≥ 1`, whatever the
    environment does. -/
theorem runLoop_no_bug {E : Type} {g : Graph} {par : Nat} (dok : DepsOK g) (acyc : Acyclic g) (hpar : 0 < par)
    (c : Choices E) (fuel : Nat) (s : S) (e : E) (perms : List (List Nat)) (fin : List (Nat × Term))
    (inv : Inv g par s) (pi : PInv g s) :
    (runLoop g par c fuel s e perms fin).result ≠ .bug ∧
    ((runLoop g par c fuel s e perms fin).result = .ok true → PInv g (runLoop g par c fuel s e perms fin).s) :=
  runLoop_no_bug_reg dok hpar c fuel s e perms fin inv pi (.of_global acyc s)

/-- Success of the want phase gives regional acyclicity: rank = number of ordering ancestors. -/
theorem regAcyc_of_ai {g : Graph} (gok : GraphOK g) {s : S} (h : AI g s) : RegAcyc g s := by
  classical
  refine ⟨fun b => cnt g.nBuilds (fun q => decide (Anc g b q)), ?_⟩
  intro b f p hb hf hp
  have hbp : Anc g b p := Anc.direct hf hp
  have hpm : s.st p ≠ .unknown := h.closed b hb f hf p hp
  apply Nat.lt_of_succ_le
  apply cnt_lt _ _ _ _ p (gok f p hp)
  · simp only [decide_eq_true_eq]; exact hbp
  · simp only [decide_eq_false_iff_not]; exact h.acyc p hpm
  · intro q _ hq
    simp only [decide_eq_true_eq] at hq ⊢
    exact Anc.step hbp hq

end N2V.Sched

namespace N2V.Run
open N2V N2V.Sched
variable {E : Type} {g : Graph} {a : Args} {c : Choices E}

theorem fresh_pinv (g : Graph) (a : Args) : PInv g (fresh a) :=
  ⟨(fun b hb => by cases hb), (fun b hb => by cases hb), (fun b hb => by cases hb),
   (fun b hb => absurd rfl hb), (fun b hb => by cases hb)⟩

theorem ofRun_bug (r : RunResult) (h : ofRun r = .bug) : r = .bug := by
  cases r <;> simp [ofRun] at h ⊢

/-- Wanting requested files and the moves of `Work::run` keep the bookkeeping and leave no marked
    build on an ordering cycle. -/
theorem Moves.pinv (gok : GraphOK g) (dok : DepsOK g) {s e s' e'} (h : Moves g a c s e s' e')
    (inv : Inv g a.par s) (pi : PInv g s) (ai : AI g s) : PInv g s' ∧ AI g s' :=
  h.induct gok (P := fun s _ => PInv g s ∧ AI g s) inv ⟨pi, ai⟩
    (fun _ i q _ h => ⟨(want_inv gok _ _ _ i h).pinv q.1, want_acyclic g _ _ _ q.2 h⟩)
    (fun i q st =>
      have p' := st.pinv dok i q.1
      ⟨p', p'.clo, fun b hb => q.2.acyc b (st.keeps i b hb)⟩)

/-- An invocation started with nothing on a cycle never ends in the `BUG` outcome, and when it
    reports success every build is untouched or `Done`. -/
theorem Runs.no_bug (gok : GraphOK g) (dok : DepsOK g) (hpar : 0 < a.par) {tb : Nat} {s : S} {e : E}
    {r : S × E × Outcome} (h : Runs g a c tb s e r) (inv : Inv g a.par s) (pi : PInv g s) (ai : AI g s) :
    r.2.2 ≠ .bug ∧ ∀ n, r.2.2 = .done n → ∀ b, r.1.st b = .unknown ∨ r.1.st b = .done := by
  obtain ⟨s', e', hm, hst⟩ := h
  have i' := hm.inv gok inv
  obtain ⟨p', ai'⟩ := hm.pinv gok dok inv pi ai
  constructor
  · intro hb
    cases hst with
    | wantErr | unknown | panic | reload | done => cases hb
    | other he =>
      rw [ofRun_bug _ hb] at he
      obtain ⟨-, -, hp, hrd, hq, hrun, htf⟩ := he.bug
      exact no_stall_reg i' p' (regAcyc_of_ai gok ai') hpar hp hrd hq hrun htf
  · intro n hn b
    obtain ⟨e1, -, hp, hf⟩ := hst.ok (.inl hn)
    rw [e1]; exact settled_of i' p' hp hf b

/-- **`run::build` never ends in n2's `BUG: no work to do and runner not running` panic**, on any
    graph with consistent cross references - cyclic or not -, for `-j ≥ 1` and every behaviour of
    the environment (dirty answers, completion order, failures, interruptions). -/
theorem build_no_bug_free {E : Type} {g : Graph} (gok : GraphOK g) (dok : DepsOK g) (a : Args)
    (hpar : 0 < a.par) (c : Choices E) (e : E) : (build g a c e).2.2 ≠ .bug :=
  ((build_runs g a c e).no_bug gok dok hpar (fresh_inv g a) (fresh_pinv g a)
    (ai_of_unmarked g _ fun _ => rfl)).1

theorem buildReloaded_no_bug_free {E : Type} {g : Graph} (gok : GraphOK g) (dok : DepsOK g) (a : Args)
    (hpar : 0 < a.par) (c : Choices E) (e : E) (n0 : Nat) : (buildReloaded g a c e n0).2.2 ≠ .bug :=
  ((buildReloaded_runs g a c e n0).no_bug gok dok hpar (fresh_inv g a) (fresh_pinv g a)
    (ai_of_unmarked g _ fun _ => rfl)).1

/-- **If `run::build` reports success, every step it wanted is up to date**: every build is
    either untouched (`Unknown`: outside the requested closure) or `Done`; none is left waiting,
    queued, running or failed. -/
theorem build_done_settled_free {E : Type} {g : Graph} (gok : GraphOK g) (dok : DepsOK g)
    (a : Args) (hpar : 0 < a.par) (c : Choices E) (e : E) (n : Nat) (h : (build g a c e).2.2 = .done n)
    (b : Nat) : (build g a c e).1.st b = .unknown ∨ (build g a c e).1.st b = .done :=
  ((build_runs g a c e).no_bug gok dok hpar (fresh_inv g a) (fresh_pinv g a)
    (ai_of_unmarked g _ fun _ => rfl)).2 n h b

end N2V.Run
