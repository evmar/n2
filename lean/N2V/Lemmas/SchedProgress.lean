/-
  Progress: the converse bookkeeping of the scheduler invariant (`PInv`: a `Ready` build is in the
  ready queue, a `Queued` one in a pool's queue, a `Want` one still waits for a producer, ...),
  which is what makes "nothing to do while something is pending"
  (`panic!("BUG: no work to do and runner not running")`) impossible.  Every move of `Work::run`
  keeps it (`Step.pinv`).
-/
import N2V.Lemmas.SchedSteps
namespace N2V.Sched

/-- Consistency of the graph's cross references (how `Graph::add_build` fills them in): a
    file's producer lists it among its outputs, and every build is a dependent of each of its
    ordering inputs. -/
structure DepsOK (g : Graph) : Prop where
  outs : ∀ f p, g.producer f = some p → f ∈ (g.build p).outs
  deps : ∀ b f, f ∈ (g.build b).ordering → b ∈ g.dependents f

/-- Ordering edges form no cycle: producers rank strictly below their consumers. -/
def Acyclic (g : Graph) : Prop :=
  ∃ rank : Nat → Nat, ∀ b f p, f ∈ (g.build b).ordering → g.producer f = some p → rank p < rank b

structure PInv (g : Graph) (s : S) : Prop where
  rdy : ∀ b, s.st b = .ready → b ∈ s.ready
  que : ∀ b, s.st b = .queued → ∃ p ∈ s.pools, b ∈ p.queued
  wnt : ∀ b, s.st b = .want → recheckReady g s b = false
  clo : ∀ b, s.st b ≠ .unknown → ∀ f ∈ (g.build b).ordering, ∀ p, g.producer f = some p → s.st p ≠ .unknown
  fld : ∀ b, s.st b = .failed → 0 < s.tasksFailed

/-- `recheck_ready` only looks at which builds are `Done`. -/
theorem recheckReady_congr (g : Graph) (s s' : S) (b : Nat)
    (h : ∀ p, (s'.st p = .done ↔ s.st p = .done)) : recheckReady g s' b = recheckReady g s b := by
  unfold recheckReady
  apply List.all_congr rfl
  intro f
  cases g.producer f with
  | none => rfl
  | some p =>
    show (s'.st p == St.done) = (s.st p == St.done)
    rw [Bool.eq_iff_iff, beq_iff_eq, beq_iff_eq]; exact h p

theorem modPool_queued_mem (ps ps' : List Pool) (name : Bytes) (f : Pool → Pool)
    (hf : ∀ p x, x ∈ p.queued → x ∈ (f p).queued) (h : modPool ps name f = some ps') (b : Nat)
    (hb : ∃ p ∈ ps, b ∈ p.queued) : ∃ p ∈ ps', b ∈ p.queued := by
  induction ps generalizing ps' with
  | nil => simp [modPool] at h
  | cons p rest ih =>
    obtain ⟨q, hq, hbq⟩ := hb
    unfold modPool at h
    split at h
    · cases h
      rcases List.mem_cons.mp hq with rfl | hq
      · exact ⟨f q, List.mem_cons_self, hf q b hbq⟩
      · exact ⟨q, List.mem_cons_of_mem _ hq, hbq⟩
    · obtain ⟨r, hm, rfl⟩ := Option.map_eq_some_iff.mp h
      rcases List.mem_cons.mp hq with rfl | hq
      · exact ⟨q, List.mem_cons_self, hbq⟩
      · obtain ⟨p', hp', hb'⟩ := ih r hm ⟨q, hq, hbq⟩
        exact ⟨p', List.mem_cons_of_mem _ hp', hb'⟩

theorem set_queued_mem {g : Graph} {s s' : S} {id : Nat} {new : St} (h : set g s id new = .ok s') (b : Nat)
    (hb : ∃ p ∈ s.pools, b ∈ p.queued) : ∃ p ∈ s'.pools, b ∈ p.queued := by
  obtain ⟨ps1, h1, h2⟩ := set_modPool h
  have e1 : ∃ p ∈ ps1, b ∈ p.queued := by
    split at h1
    · exact modPool_queued_mem _ _ _ decRunning (fun _ _ hx => hx) h1 b hb
    · cases h1; exact hb
  split at h2
  · exact modPool_queued_mem _ _ _ incRunning (fun _ _ hx => hx) h2 b e1
  · exact Option.some.inj h2 ▸ e1

theorem modPool_adds {ps ps' : List Pool} {name : Bytes} {id : Nat}
    (h : modPool ps name (fun p => { p with queued := p.queued ++ [id] }) = some ps') :
    ∃ p ∈ ps', id ∈ p.queued := by
  obtain ⟨l, p, r, -, -, -, rfl⟩ := modPool_eq_some.mp h
  exact ⟨{ p with queued := p.queued ++ [id] }, by simp, by simp⟩

/-- `PInv` with the clauses about a build's own state waived for the build `x`: the bookkeeping
    while `x` is on its way from one state to the next. -/
structure PInvOff (g : Graph) (s : S) (x : Nat) : Prop where
  rdy : ∀ b, b ≠ x → s.st b = .ready → b ∈ s.ready
  que : ∀ b, b ≠ x → s.st b = .queued → ∃ p ∈ s.pools, b ∈ p.queued
  wnt : ∀ b, b ≠ x → s.st b = .want → recheckReady g s b = false
  clo : ∀ b, s.st b ≠ .unknown → ∀ f ∈ (g.build b).ordering, ∀ p, g.producer f = some p → s.st p ≠ .unknown
  fld : ∀ b, b ≠ x → s.st b = .failed → 0 < s.tasksFailed

theorem PInv.off {g : Graph} {s : S} (pi : PInv g s) (x : Nat) : PInvOff g s x :=
  ⟨fun b _ => pi.rdy b, fun b _ => pi.que b, fun b _ => pi.wnt b, pi.clo, fun b _ => pi.fld b⟩

theorem PInv.pop_ready {g : Graph} {s : S} {id : Nat} {rest : List Nat} (pi : PInv g s)
    (hr : s.ready = id :: rest) : PInvOff g { s with ready := rest } id :=
  { pi.off id with rdy := fun b e hb => by have := pi.rdy b hb; rw [hr] at this; simpa [e] using this }

/-- The clauses for `x` itself, read off its state `v`. -/
theorem PInvOff.pinv {g : Graph} {s : S} {x : Nat} {v : St} (po : PInvOff g s x) (hx : s.st x = v)
    (rdy : v = .ready → x ∈ s.ready) (que : v = .queued → ∃ p ∈ s.pools, x ∈ p.queued)
    (wnt : v = .want → recheckReady g s x = false) (fld : v = .failed → 0 < s.tasksFailed) : PInv g s := by
  subst hx
  refine ⟨fun b hb => ?_, fun b hb => ?_, fun b hb => ?_, po.clo, fun b hb => ?_⟩ <;> by_cases e : b = x
  · subst e; exact rdy hb
  · exact po.rdy b e hb
  · subst e; exact que hb
  · exact po.que b e hb
  · subst e; exact wnt hb
  · exact po.wnt b e hb
  · subst e; exact fld hb
  · exact po.fld b e hb

/-- One `set` of `x`, neither out of `Done` nor to `Unknown` or `Done`, leaves the bookkeeping of
    the other builds as it is (`recheck_ready` sees the same `Done` builds). -/
theorem PInvOff.set {g : Graph} {s s' : S} {x : Nat} {new : St} (po : PInvOff g s x)
    (h : set g s x new = .ok s')
    (hclo : ∀ f ∈ (g.build x).ordering, ∀ p, g.producer f = some p → s.st p ≠ .unknown)
    (hd : s.st x ≠ .done) (hn : new ≠ .unknown ∧ new ≠ .done) : PInvOff g s' x := by
  have hx := set_st_self h
  have other : ∀ {b v}, b ≠ x → s'.st b = v → s.st b = v := fun e hb => by
    rw [set_st_ne h e] at hb; exact hb
  have hdone : ∀ p, s'.st p = .done ↔ s.st p = .done := fun p => by
    by_cases e : p = x
    · subst e; rw [hx]; exact ⟨fun e => absurd e hn.2, fun e => absurd e hd⟩
    · rw [set_st_ne h e]
  refine ⟨fun b e hb => ?_, fun b e hb => set_queued_mem h b (po.que b e (other e hb)),
    fun b e hb => ?_, fun b hb f hf p hp => ?_, fun b e hb => ?_⟩
  · rw [set_ready h]; have := po.rdy b e (other e hb); split <;> simp [this]
  · rw [recheckReady_congr g s s' b hdone]; exact po.wnt b e (other e hb)
  · have hp' : s.st p ≠ .unknown := by
      by_cases e : b = x
      · subst e; exact hclo f hf p hp
      · exact po.clo b (fun hu => hb (by rw [set_st_ne h e]; exact hu)) f hf p hp
    by_cases e : p = x
    · subst e; rw [hx]; exact hn.1
    · rw [set_st_ne h e]; exact hp'
  · rw [set_tasksFailed h]; exact po.fld b e (other e hb)

/-- `ready_dependents` on a marked build whose own clauses are set aside (a `Ready` one already
    popped, a `Running` one): it becomes `Done`, and the `Want` builds this completes are exactly
    those promoted. -/
theorem readyDependents_pinv {g : Graph} (dok : DepsOK g) {s s' : S} {id : Nat} {perm : List Nat}
    (hidm : s.st id ≠ .unknown) (po : PInvOff g s id)
    (h : readyDependents g s id perm = .ok s') : PInv g s' := by
  obtain ⟨s1, hs, hp⟩ := readyDependents_ok_iff.mp h
  obtain ⟨pst, prd⟩ := promote_spec hp
  have hid1 := set_st_self hs
  have hl : ∀ b, b ∈ orderBy perm (promotable g s1 id) → s1.st b = .want := fun b hb =>
    (promoted_spec hb).1
  have other : ∀ b, b ≠ id → s1.st b = s.st b := fun b e => set_st_ne hs e
  -- a build whose new state is not `Ready` or `Done` was not touched
  have back : ∀ {b v}, s'.st b = v → v ≠ .ready → v ≠ .done → b ≠ id ∧ s.st b = v ∧ s1.st b = v ∧
      b ∉ orderBy perm (promotable g s1 id) := fun {b v} hb h1 h2 => by
    rw [pst] at hb
    split at hb
    · exact absurd hb.symm h1
    · rename_i hnl
      have e : b ≠ id := fun e => h2 (by rw [← hb, e, hid1])
      exact ⟨e, by rw [← other b e]; exact hb, hb, hnl⟩
  have hdone : ∀ p, s'.st p = .done ↔ s1.st p = .done := fun p => by
    rw [pst]
    split
    · rename_i hm; rw [hl p hm]; simp
    · rfl
  have mark : ∀ b, s'.st b ≠ .unknown ↔ s.st b ≠ .unknown := fun b => by
    rcases readyDependents_st h b with ⟨rfl, e⟩ | ⟨-, e1, e2⟩ | ⟨-, e⟩
    · simp [e, hidm]
    · simp [e1, e2]
    · rw [e]
  refine ⟨fun b hb => ?_, fun b hb => ?_, fun b hb => ?_, fun b hb f hf p hp' => ?_, fun b hb => ?_⟩
  · rw [prd, set_ready hs, List.mem_append]
    rw [pst] at hb
    split at hb
    · rename_i hm; exact .inr hm
    · have e : b ≠ id := fun e => by rw [e, hid1] at hb; cases hb
      rw [other b e] at hb
      simpa using .inl (po.rdy b e hb)
  · obtain ⟨e, hb0, -⟩ := back hb (by simp) (by simp)
    exact readyDependents_rel (R := fun a c => (∃ p ∈ a.pools, b ∈ p.queued) → ∃ p ∈ c.pools, b ∈ p.queued)
      (fun _ h => h) (fun h1 h2 h => h2 (h1 h)) (fun _ hs => set_queued_mem hs b) h (po.que b e hb0)
  · obtain ⟨e, hb0, hb1, hnl⟩ := back hb (by simp) (by simp)
    rw [recheckReady_congr g s1 s' b hdone]
    cases hrr : recheckReady g s1 b with
    | false => rfl
    | true =>
      -- `b` now passes `recheck_ready` and did not before: it waited for `id`, so it is promoted
      refine absurd (mem_orderBy_iff.mpr (mem_promotable_iff.mpr ⟨?_, hb1, hrr⟩)) hnl
      have hall := recheckReady_iff.mp hrr
      rw [List.mem_flatMap]
      apply Classical.byContradiction
      intro hno
      have : recheckReady g s b = true := by
        refine recheckReady_iff.mpr fun f hf p hp' => ?_
        have hd := hall f hf p hp'
        by_cases e' : p = id
        · subst e'; exact absurd ⟨f, dok.outs f p hp', dok.deps b f hf⟩ hno
        · rw [other p e'] at hd; exact hd
      rw [po.wnt b e hb0] at this; cases this
  · exact (mark p).mpr (po.clo b ((mark b).mp hb) f hf p hp')
  · obtain ⟨e, hb0, -⟩ := back hb (by simp) (by simp)
    rw [(readyDependents_frm h).tasksFailed]; exact po.fld b e hb0

variable {g : Graph} {par : Nat}

theorem clean_pinv (dok : DepsOK g) {s s1 : S} {id : Nat} {rest perm : List Nat}
    (inv : Inv g par s) (pi : PInv g s) (hr : s.ready = id :: rest)
    (h : readyDependents g { s with ready := rest } id perm = .ok s1) : PInv g s1 :=
  readyDependents_pinv (s := { s with ready := rest }) dok
    (fun e => nomatch (inv.readySt id (by simp [hr])).symm.trans e)
    (pi.pop_ready hr) h

theorem enqueue_pinv {s s1 : S} {id : Nat} {rest : List Nat}
    (inv : Inv g par s) (pi : PInv g s) (hr : s.ready = id :: rest)
    (h : enqueueRun g { s with ready := rest } id = .inl s1) : PInv g s1 := by
  obtain ⟨s2, pools, hs, hm, rfl⟩ := enqueueRun_inl h
  have hstid : s.st id = .ready := inv.readySt id (by simp [hr])
  have po := (pi.pop_ready hr).set hs (pi.clo id (by rw [hstid]; simp))
    (by show s.st id ≠ .done; rw [hstid]; simp) ⟨by simp, by simp⟩
  have hnd : (s2.pools.map (·.name)).Nodup := by
    rw [set_pools hs inv.poolNames, map_bump_names]; exact inv.poolNames
  have hx := set_st_self hs
  refine PInvOff.pinv (x := id) ⟨po.rdy, fun b e hb => ?_, po.wnt, po.clo, po.fld⟩
    hx nofun (fun _ => modPool_adds hm) nofun nofun
  exact modPool_queued_mem _ _ _ _ (fun p x hx => by simp [hx]) hm b (po.que b e hb)

theorem start_pinv {s s1 : S} {id : Nat} {pools : List Pool}
    (inv : Inv g par s) (pi : PInv g s) (hpop : popQueued s.pools = some (id, pools))
    (h : set g { s with pools := pools } id .running = .ok s1) :
    PInv g { s1 with running := s1.running + 1, trace := Ev.start id :: s1.trace } := by
  obtain ⟨p, q, hp, hq, -, hps⟩ := popQueued_spec _ _ _ inv.poolNames hpop
  have hstid : s.st id = .queued := (inv.queuedSt p hp id (by simp [hq])).1
  -- popping `id` leaves every other queued build where it was
  have po : PInvOff g { s with pools := pools } id := by
    refine { pi.off id with que := fun b e hb => ?_ }
    obtain ⟨p0, hp0, hb0⟩ := pi.que b hb
    refine ⟨_, by rw [hps]; exact List.mem_map_of_mem hp0, ?_⟩
    unfold popQ
    split
    · rename_i hn
      have : p0 = p := pool_eq_of_name _ inv.poolNames _ _ hp0 hp hn
      subst this
      rw [hq] at hb0
      simpa [e] using hb0
    · exact hb0
  have q := (po.set h (pi.clo id (by rw [hstid]; simp)) (by show s.st id ≠ .done; rw [hstid]; simp)
    ⟨by simp, by simp⟩).pinv (set_st_self h) nofun nofun nofun nofun
  exact ⟨q.rdy, q.que, q.wnt, q.clo, q.fld⟩

variable {E : Type} {c : Choices E}

theorem Step.pinv (dok : DepsOK g) {s e s' e'} (h : Step g par c s e s' e') (inv : Inv g par s)
    (pi : PInv g s) : PInv g s' := by
  cases h with
  | update => exact ⟨pi.rdy, pi.que, pi.wnt, pi.clo, pi.fld⟩
  | start _ _ hpop h => exact start_pinv inv pi hpop h
  | clean _ hr _ h => exact clean_pinv dok inv pi hr h
  | adopt _ hr _ _ h => exact clean_pinv dok inv pi hr h
  | enqueue hr _ _ h => exact enqueue_pinv inv pi hr h
  | @failed id k _ _ hst _ h =>
    have po : PInvOff g { waited s id .failure with failuresLeft := k, tasksFailed := s.tasksFailed + 1 } id :=
      { pi.off id with fld := fun _ _ _ => Nat.succ_pos _ }
    exact (po.set h (pi.clo id (by rw [hst]; simp)) (by show s.st id ≠ .done; rw [hst]; simp)
      ⟨by simp, by simp⟩).pinv (set_st_self h) nofun nofun nofun
      (fun _ => by rw [set_tasksFailed h]; exact Nat.succ_pos _)
  | @succeeded id _ _ _ hst h =>
    exact readyDependents_pinv (s := { waited s id .success with tasksRun := s.tasksRun + 1 }) dok
      (fun e => nomatch hst.symm.trans e) { pi.off id with } h

end N2V.Sched
