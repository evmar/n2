/-
  `check_build_files_missing`, `check_build_dirty` and `record_finished` in terms of `statMany`:
  each leaves `statMany e l` for some `l` among the files the step names (`filesMissing_stats`,
  `checkDirty_stats`, `restat_eq`).  `checkDirty_clean` is what a "clean" answer says about the
  cache the check leaves, `recordFinished_spec` what `record_finished` leaves.
-/
import N2V.Lemmas.WorkStat
namespace N2V.Work
open N2V N2V.Load

theorem filesMissing_of_ok {e e1 e2 : Env} {bm : BuildM} {b : Nat}
    (h1 : ensureInputs e bm.dirtying = .ok (none, e1)) (h2 : ensureInputs e1 (discOf e1 b) = .ok (none, e2)) :
    filesMissing e bm b = ((statAllOutputs e2 bm.outs).2, some (statAllOutputs e2 bm.outs).1.isSome) := by
  unfold filesMissing; rw [h1]; simp only; rw [h2]

theorem filesMissing_stats (e : Env) (bm : BuildM) (b : Nat) :
    ∃ l, (filesMissing e bm b).1 = statMany e l ∧ ∀ f ∈ l, f ∈ bm.dirtying ++ discOf e b ++ bm.outs := by
  unfold filesMissing
  split
  · exact ⟨[], rfl, nofun⟩
  · rename_i h1
    obtain ⟨l1, rfl, hl1, _⟩ := ensureInputs_ok h1
    exact ⟨l1, rfl, fun f hf => List.mem_append_left _ (List.mem_append_left _ (hl1 f hf).1)⟩
  · rename_i h1
    obtain ⟨l1, rfl, hl1, _⟩ := ensureInputs_ok h1
    have m1 : ∀ f ∈ l1, f ∈ bm.dirtying ++ discOf e b ++ bm.outs :=
      fun f hf => List.mem_append_left _ (List.mem_append_left _ (hl1 f hf).1)
    rw [discOf_same (statMany_same l1 e)]
    split
    · exact ⟨l1, rfl, m1⟩
    all_goals
      rename_i h2
      obtain ⟨l2, rfl, hl2, _⟩ := ensureInputs_ok h2
      have m2 : ∀ f ∈ l1 ++ l2, f ∈ bm.dirtying ++ discOf e b ++ bm.outs := List.append_subset.mpr
        ⟨m1, fun f hf => List.mem_append_left _ (List.mem_append_right _ (hl2 f hf).1)⟩
    · exact ⟨l1 ++ l2, (statMany_append e l1 l2).symm, m2⟩
    · exact ⟨l1 ++ l2 ++ bm.outs, by rw [statAllOutputs_snd, statMany_append, statMany_append],
        List.append_subset.mpr ⟨m2, List.subset_append_right _ _⟩⟩

theorem filesMissing_same (e : Env) (bm : BuildM) (b : Nat) : SameButCache e (filesMissing e bm b).1 := by
  obtain ⟨l, h, _⟩ := filesMissing_stats e bm b
  rw [h]; exact statMany_same l e

theorem filesMissing_false {e : Env} {bm : BuildM} {b : Nat} (h : (filesMissing e bm b).2 = some false) :
    ∃ l, (filesMissing e bm b).1 = statMany e (l ++ bm.outs) ∧
      ∀ f ∈ bm.dirtying ++ discOf e b ++ bm.outs, ∃ t, assocGet (filesMissing e bm b).1.cache f = some (some t) := by
  revert h
  unfold filesMissing
  split
  · intro h; cases h
  · intro h; split at h <;> cases h
  · rename_i h1
    obtain ⟨l1, rfl, _, hr1⟩ := ensureInputs_ok h1
    rw [discOf_same (statMany_same l1 e)]
    split
    · intro h; cases h
    · intro h; cases h
    · rename_i h2
      obtain ⟨l2, rfl, hl2, hr2⟩ := ensureInputs_ok h2
      intro h
      have hout : ∀ o ∈ bm.outs, (mtimeOf e o).isSome = true := by
        have := (statAllOutputs_fst_none _ bm.outs).mp
          (Option.isNone_iff_eq_none.mp (Option.isSome_eq_false_iff.mp (Option.some.inj h)))
        simpa only [mtimeOf_statMany] using this
      rw [statAllOutputs_snd]
      refine ⟨l1 ++ l2, by rw [statMany_append, statMany_append], fun f hf => ?_⟩
      rw [statMany_cache]
      split
      · next ho =>
        obtain ⟨t, ht⟩ := Option.isSome_iff_exists.mp (hout f ho)
        exact ⟨t, by rw [mtimeOf_statMany, mtimeOf_statMany, ht]⟩
      · next ho =>
        rcases List.mem_append.mp ((List.mem_append.mp hf).resolve_right ho) with hf | hf
        · -- an entry of the first round is not stat()ed again by the second
          obtain ⟨t, ht⟩ := hr1 f hf
          exact ⟨t, by rw [statMany_cache, if_neg (fun hx => by rw [(hl2 f hx).2] at ht; cases ht), ht]⟩
        · exact hr2 f hf

theorem checkDirty_none {e : Env} {b : Nat} (hb : buildOf e.g b = none) : checkDirty e b = (none, e) := by
  unfold checkDirty; rw [hb]

theorem checkDirty_phony_eq {e : Env} {b : Nat} {bm : BuildM} (hb : buildOf e.g b = some bm)
    (hph : bm.cmdline.isNone = true) : checkDirty e b = (some false, statMany e bm.outs) := by
  unfold checkDirty; rw [hb]; simp only [hph, if_true, statAllOutputs_eq]

theorem checkDirty_cmd_eq {e : Env} {b : Nat} {bm : BuildM} (hb : buildOf e.g b = some bm)
    (hnp : bm.cmdline.isNone = false) :
    checkDirty e b =
      (match (filesMissing e bm b).2 with
        | none => none
        | some true => some true
        | some false =>
          match assocGet (filesMissing e bm b).1.hashes b with
          | none => some true
          | some prev => some (decide (prev ≠ manifestOf (filesMissing e bm b).1 bm b)),
       (filesMissing e bm b).1) := by
  unfold checkDirty; rw [hb]; simp only [hnp, Bool.false_eq_true, if_false]
  rcases (filesMissing e bm b).2 with _ | _ | _ <;> try rfl
  cases assocGet (filesMissing e bm b).1.hashes b <;> rfl

theorem checkDirty_env {e : Env} {b : Nat} {bm : BuildM} (hb : buildOf e.g b = some bm)
    (hnp : bm.cmdline.isNone = false) : (checkDirty e b).2 = (filesMissing e bm b).1 := by
  rw [checkDirty_cmd_eq hb hnp]

/-- A step with a command is found clean exactly when no file is missing and the signature on
    record is the manifest of the files as stat()ed. -/
theorem checkDirty_clean_iff {e : Env} {b : Nat} {bm : BuildM} (hb : buildOf e.g b = some bm)
    (hnp : bm.cmdline.isNone = false) :
    (checkDirty e b).1 = some false ↔
      (filesMissing e bm b).2 = some false ∧
      assocGet (filesMissing e bm b).1.hashes b = some (manifestOf (filesMissing e bm b).1 bm b) := by
  rw [checkDirty_cmd_eq hb hnp]
  constructor
  · intro h
    simp only at h
    split at h
    · cases h
    · cases h
    · rename_i hfm
      refine ⟨hfm, ?_⟩
      split at h
      · cases h
      · rename_i prev hp
        rw [hp, of_decide_eq_false (Option.some.inj h) |> Decidable.not_not.mp]
  · rintro ⟨h1, h2⟩
    simp only [h1, h2, ne_eq, not_true_eq_false, decide_false]

theorem checkDirty_dirty_iff {e : Env} {b : Nat} {bm : BuildM} (hb : buildOf e.g b = some bm)
    (hnp : bm.cmdline.isNone = false) :
    (checkDirty e b).1 = some true ↔ (filesMissing e bm b).2 = some true ∨
      ((filesMissing e bm b).2 = some false ∧
        assocGet (filesMissing e bm b).1.hashes b ≠ some (manifestOf (filesMissing e bm b).1 bm b)) := by
  rw [checkDirty_cmd_eq hb hnp]
  generalize filesMissing e bm b = fm
  obtain ⟨e1, r⟩ := fm
  rcases r with _ | _ | _ <;> simp only [reduceCtorEq, false_and, Option.some.injEq, Bool.true_eq_false, true_and,
    Bool.false_eq_true, or_false, false_or, or_self]
  cases assocGet e1.hashes b <;> simp

theorem checkDirty_stats (e : Env) (b : Nat) :
    ∃ l, (checkDirty e b).2 = statMany e l ∧
      ∀ f ∈ l, ∃ bm, buildOf e.g b = some bm ∧ f ∈ bm.dirtying ++ discOf e b ++ bm.outs := by
  cases hb : buildOf e.g b with
  | none => rw [checkDirty_none hb]; exact ⟨[], rfl, nofun⟩
  | some bm =>
    cases hph : bm.cmdline.isNone with
    | true =>
      rw [checkDirty_phony_eq hb hph]
      exact ⟨bm.outs, rfl, fun f hf => ⟨bm, rfl, List.mem_append_right _ hf⟩⟩
    | false =>
      rw [checkDirty_cmd_eq hb hph]
      obtain ⟨l, h, hl⟩ := filesMissing_stats e bm b
      exact ⟨l, h, fun f hf => ⟨bm, rfl, hl f hf⟩⟩

theorem checkDirty_same (e : Env) (b : Nat) : SameButCache e (checkDirty e b).2 := by
  obtain ⟨l, h, _⟩ := checkDirty_stats e b
  rw [h]; exact statMany_same l e

/-- What a "clean" answer tells about a step with a command: the check stat()ed every output
    last, its cache says of every file the step names that it exists, and the signature on record
    is the manifest computed from that cache. -/
theorem checkDirty_clean {e : Env} {b : Nat} {bm : BuildM} (hb : buildOf e.g b = some bm)
    (hnp : bm.cmdline.isNone = false) (h : (checkDirty e b).1 = some false) :
    ∃ l, (checkDirty e b).2 = statMany e (l ++ bm.outs) ∧
      (∀ f ∈ bm.dirtying ++ discOf e b ++ bm.outs, ∃ t, assocGet (checkDirty e b).2.cache f = some (some t)) ∧
      assocGet e.hashes b = some (manifestOf (checkDirty e b).2 bm b) := by
  obtain ⟨hfm, hh⟩ := (checkDirty_clean_iff hb hnp).mp h
  obtain ⟨l, h1, h2⟩ := filesMissing_false hfm
  rw [(filesMissing_same e bm b).hashes] at hh
  rw [checkDirty_env hb hnp]
  exact ⟨l, h1, h2, hh⟩

theorem restat_eq (e : Env) (bm : BuildM) (b : Nat) (deps : Option (List Bytes)) :
    restat e bm b deps =
      let kd := keepDeps e bm.dirtying (deps.getD []) []
      let r := statMany { kd.1 with disc := assocPut kd.1.disc b kd.2 } (bm.dirtying ++ kd.2 ++ bm.outs)
      ((bm.dirtying ++ kd.2).any (fun f => (mtimeOf r f).isNone), bm.outs.find? (fun o => (mtimeOf r o).isNone), r) := by
  unfold restat
  simp only [restatFold_eq, statAllOutputs_eq, statMany_append, mtimeOf_statMany, Bool.false_or]

/-- `record_finished`, given the list `keepDeps` makes of the report: the graph is the one the
    interning left, the list replaces the step's old one, exactly the files the step now names are
    stat()ed afresh, and one record is appended if and only if all of them exist. -/
theorem recordFinished_spec (e : Env) (b : Nat) (bm : BuildM) (hb : buildOf e.g b = some bm) (deps : Option (List Bytes)) :
    (recordFinished e b deps).g = (keepDeps e bm.dirtying (deps.getD []) []).1.g ∧
    (recordFinished e b deps).fs = e.fs ∧ (recordFinished e b deps).hashes = e.hashes ∧
    (recordFinished e b deps).clock = e.clock ∧
    discOf (recordFinished e b deps) b = (keepDeps e bm.dirtying (deps.getD []) []).2 ∧
    (∀ x, x ≠ b → discOf (recordFinished e b deps) x = discOf e x) ∧
    (∀ f, assocGet (recordFinished e b deps).cache f =
      if f ∈ bm.dirtying ++ discOf (recordFinished e b deps) b ++ bm.outs then some (mtimeOf (recordFinished e b deps) f)
      else assocGet e.cache f) ∧
    (recordFinished e b deps).log =
      if ∀ f ∈ bm.dirtying ++ discOf (recordFinished e b deps) b ++ bm.outs, (mtimeOf (recordFinished e b deps) f).isSome = true
      then e.log ++ [⟨bm.outs.map (fileName (recordFinished e b deps).g),
        (discOf (recordFinished e b deps) b).map (fileName (recordFinished e b deps).g),
        manifestOf (recordFinished e b deps) bm b⟩]
      else e.log := by
  obtain ⟨g', hk, -, -⟩ := keepDeps_env bm.dirtying (deps.getD []) e []
  have hrestat := restat_eq e bm b deps
  generalize keepDeps e bm.dirtying (deps.getD []) [] = kd at hk hrestat ⊢
  obtain ⟨e1, ids⟩ := kd
  simp only [] at hk hrestat
  subst hk
  have hsame := statMany_same (bm.dirtying ++ ids ++ bm.outs) { e with g := g', disc := assocPut e.disc b ids }
  have hc := fun f => statMany_cache f (bm.dirtying ++ ids ++ bm.outs) { e with g := g', disc := assocPut e.disc b ids }
  generalize statMany { e with g := g', disc := assocPut e.disc b ids } (bm.dirtying ++ ids ++ bm.outs) = r
    at hsame hc hrestat
  have hd := discOf_assocPut hsame.disc
  have hdb : discOf r b = ids := (hd b).trans (if_pos rfl)
  have hmiss : ((bm.dirtying ++ ids).any (fun f => (mtimeOf r f).isNone) ||
      (bm.outs.find? (fun o => (mtimeOf r o).isNone)).isSome) = false ↔
      ∀ f ∈ bm.dirtying ++ discOf r b ++ bm.outs, (mtimeOf r f).isSome = true := by
    rw [hdb, Bool.or_eq_false_iff, anyMissing_false_iff, Option.isSome_eq_false_iff, Option.isNone_iff_eq_none,
      firstMissing_none_iff]
    exact List.forall_mem_append.symm
  have hcache : ∀ f, assocGet r.cache f =
      if f ∈ bm.dirtying ++ discOf r b ++ bm.outs then some (mtimeOf r f) else assocGet e.cache f :=
    fun f => by rw [hdb, hc, mtimeOf_same hsame]
  rw [recordFinished_some hb hrestat]
  generalize hlg : (if ((bm.dirtying ++ ids).any (fun f => (mtimeOf r f).isNone) ||
      (bm.outs.find? (fun o => (mtimeOf r o).isNone)).isSome) = true then r.log else _) = lg
  refine ⟨hsame.g, hsame.fs, hsame.hashes, hsame.clock, hdb, fun x hx => (hd x).trans (if_neg hx), hcache, ?_⟩
  rw [← hlg]
  by_cases hall : ∀ f ∈ bm.dirtying ++ discOf r b ++ bm.outs, (mtimeOf r f).isSome = true
  · rw [if_neg (by rw [hmiss.mpr hall]; exact Bool.false_ne_true)]
    exact (congrArg (· ++ _) hsame.log).trans (if_pos hall).symm
  · rw [if_pos (by rw [← Bool.not_eq_false]; exact fun h => hall (hmiss.mp h))]
    exact hsame.log.trans (if_neg hall).symm

end N2V.Work
