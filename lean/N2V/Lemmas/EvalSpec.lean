/-
  What `read_eval` computes, at byte level: literal text, `$var` / `${var}` references, the
  escapes `$ ` `$$` `$:` and `$`-newline continuations — and hence that the parsed value does
  not depend on which of the equivalent spellings was used.
-/
import N2V.Lemmas.PM
namespace N2V.Parse
open N2V N2V.Scanner N2V.Eval
open N2V.Depfile (G At)

theorem pBack_plain_eq {buf : Array UInt8} {s : Scanner} (w : SW buf s) (k : Nat) (hk : s.ofs = k + 1) (c : UInt8)
    (hc : buf[k]? = some c) (hne : c ≠ NL) : ∃ s', pBack s = .ok () s' ∧ G buf s' ∧ s'.ofs = k := by
  obtain ⟨s', hb, w', n', h1, -⟩ := back_lands w hk
  have e := h1 (ncr_of_ne hc hne)
  exact ⟨s', by unfold pBack; rw [hb], ⟨w', e ▸ lt_of_byte hc, n'⟩, e⟩

theorem fuel_drop {a x : Bytes} {fuel : Nat} (h : (a ++ x).length ≤ fuel) (ha : 0 < a.length) :
    ∃ f, fuel = f + 1 ∧ x.length ≤ f := by
  rw [List.length_append] at h
  exact ⟨fuel - 1, by omega, by omega⟩

theorem fuel_cons {c : UInt8} {x : Bytes} {fuel : Nat} (h : (c :: x).length ≤ fuel) :
    ∃ f, fuel = f + 1 ∧ x.length ≤ f :=
  fuel_drop (a := [c]) h Nat.one_pos

theorem fuel_append {a x : Bytes} {fuel : Nat} (h : (a ++ x).length ≤ fuel) : x.length ≤ fuel := by
  rw [List.length_append] at h
  exact Nat.le_trans (Nat.le_add_left _ _) h

/-- The loop runs over the identifier bytes and takes the byte after them too. -/
theorem identLoop_spec (buf : Array UInt8) (d : Bool) (c : UInt8) (r : Bytes) (hc : isIdentChar c d = false)
    (name : Bytes) : (∀ x ∈ name, isIdentChar x d = true) → ∀ (fuel : Nat) (s : Scanner),
    At buf s (name ++ c :: r) → (name ++ c :: r).length ≤ fuel →
    ∃ s1, At buf s1 (c :: r) ∧ identLoop d fuel s = .ok () (s1.step c) := by
  induction name with
  | nil =>
    intro _ fuel s hs hf
    obtain ⟨fuel, rfl, _⟩ := fuel_cons hf
    refine ⟨s, hs, ?_⟩
    unfold identLoop
    rw [bind_eq (pRead_at hs), if_neg (ne_true_of_eq_false hc)]
    rfl
  | cons x name ih =>
    intro hn fuel s hs hf
    obtain ⟨fuel, rfl, hf'⟩ := fuel_cons hf
    have hx := hn x List.mem_cons_self
    have hne := isIdentChar_ne x d hx
    obtain ⟨s1, h1, e⟩ := ih (fun y hy => hn y (List.mem_cons_of_mem _ hy)) fuel _ (hs.step ⟨hne.1, hne.2.1⟩) hf'
    refine ⟨s1, h1, ?_⟩
    unfold identLoop
    rw [bind_eq (pRead_at hs), if_pos hx]
    exact e

theorem readIdentGen_reads (buf : Array UInt8) (d : Bool) (msg : String) (name : Bytes) (hne : name ≠ [])
    (hn : ∀ c ∈ name, isIdentChar c d = true) (c : UInt8) (r : Bytes) (hc : isIdentChar c d = false) :
    Reads buf (readIdentGen d msg) name (name ++ c :: r) (c :: r) := by
  intro s hs
  obtain ⟨s1, h1, e1⟩ := identLoop_spec buf d c r hc name hn (buf.size + 1) s hs hs.fuel
  refine ⟨s1, ?_, h1⟩
  have hstop : ¬ (s1.ofs == s.ofs) = true := fun h => Nat.ne_of_gt (hs.ofs_lt h1 hne) (beq_iff_eq.mp h)
  unfold readIdentGen
  rw [pOfs_bind, pSize_bind hs.g.w, bind_eq e1, bind_eq (pBack_at h1), pOfs_bind, if_neg hstop]
  exact pSlice_rest h1.g.w hs.rest h1.rest h1.g.lt

theorem braceLoop_spec (buf : Array UInt8) (r : Bytes) (name : Bytes) : (∀ c ∈ name, c ≠ NUL ∧ c ≠ RBRACE) →
    ∀ (fuel : Nat) (s : Scanner), SW buf s → Rest buf s.ofs (name ++ RBRACE :: r) → (name ++ RBRACE :: r).length ≤ fuel →
    ∃ s1, SW buf s1 ∧ Rest buf s1.ofs (RBRACE :: r) ∧ braceLoop fuel s = .ok () (s1.step RBRACE) := by
  induction name with
  | nil =>
    intro _ fuel s w hr hf
    obtain ⟨fuel, rfl, _⟩ := fuel_cons hf
    refine ⟨s, w, hr, ?_⟩
    unfold braceLoop
    rw [bind_eq (pRead_step w hr.head), if_neg (by decide), if_pos (by decide)]
    rfl
  | cons x name ih =>
    intro hn fuel s w hr hf
    obtain ⟨fuel, rfl, hf'⟩ := fuel_cons hf
    have hx := hn x List.mem_cons_self
    obtain ⟨s1, w1, h1, e⟩ := ih (fun y hy => hn y (List.mem_cons_of_mem _ hy)) fuel _ (w.step hr.head) hr.tail hf'
    refine ⟨s1, w1, h1, ?_⟩
    unfold braceLoop
    rw [bind_eq (pRead_step w hr.head), if_neg (byte_not_beq hx.1), if_neg (byte_not_beq hx.2)]
    exact e

/-- What may follow a `$`. -/
inductive Esc where
  | cont (k : Nat)            -- `$` newline, then `k` spaces of indentation: nothing
  | ch (c : UInt8)            -- `$ `, `$$`, `$:`: the character itself
  | braced (name : Bytes)     -- `${name}`
  | simple (name : Bytes)     -- `$name`
  deriving Repr

def escBytes : Esc → Bytes
  | .cont k => NL :: List.replicate k SP
  | .ch c => [c]
  | .braced n => LBRACE :: n ++ [RBRACE]
  | .simple n => n

def escPart : Esc → Part
  | .cont _ => .lit []
  | .ch c => .lit [c]
  | .braced n => .var n
  | .simple n => .var n

/-- Well-formedness of an escape, given the byte `nx` that follows it. -/
def EscWF (e : Esc) (nx : UInt8) : Prop :=
  match e with
  | .cont _ => nx ≠ SP
  | .ch c => c = SP ∨ c = DOLLAR ∨ c = COLON
  | .braced n => ∀ c ∈ n, c ≠ NUL ∧ c ≠ RBRACE
  | .simple n => n ≠ [] ∧ (∀ c ∈ n, isIdentChar c false = true) ∧ isIdentChar nx false = false

theorem pScannerSkipSpaces_reads (buf : Array UInt8) (k : Nat) (c : UInt8) (r : Bytes) (hc : c ≠ SP) :
    Reads buf pScannerSkipSpaces () (List.replicate k SP ++ c :: r) (c :: r) := by
  intro s hs
  obtain ⟨s', h', hs'⟩ := Depfile.scanner_skipSpaces_at buf k (s.buf.size + 1) s c r hs hc
    (by rw [hs.g.w.hb]; exact fuel_init _ _)
  exact ⟨s', by unfold pScannerSkipSpaces; rw [h'], hs'⟩

theorem readEscape_cont (buf : Array UInt8) (k : Nat) (nx : UInt8) (r : Bytes) (hnx : nx ≠ SP) :
    Reads buf readEscape (.lit []) (NL :: (List.replicate k SP ++ nx :: r)) (nx :: r) := by
  intro s hs
  obtain ⟨s2, h2, hs2⟩ := pScannerSkipSpaces_reads buf k nx r hnx _ (hs.step nl_inner)
  refine ⟨s2, ?_, hs2⟩
  unfold readEscape
  rw [bind_eq (pRead_at hs), if_pos (by decide), bind_eq h2]
  rfl

theorem readEscape_ch (buf : Array UInt8) (c : UInt8) (hc : c = SP ∨ c = DOLLAR ∨ c = COLON) (y : Bytes) :
    Reads buf readEscape (.lit [c]) (c :: y) y := by
  intro s hs
  have hcn : (c ≠ NUL ∧ c ≠ CR) ∧ (c == NL) = false ∧ (c == SP || c == DOLLAR || c == COLON) = true := by
    rcases hc with h | h | h <;> subst h <;> decide
  refine ⟨s.step c, ?_, hs.step hcn.1⟩
  unfold readEscape
  rw [bind_eq (pRead_at hs), if_neg (ne_true_of_eq_false hcn.2.1), if_pos hcn.2.2]
  rfl

theorem readEscape_braced (buf : Array UInt8) (n : Bytes) (hn : ∀ c ∈ n, c ≠ NUL ∧ c ≠ RBRACE) (r : Bytes) :
    Reads buf readEscape (.var n) (LBRACE :: (n ++ RBRACE :: r)) r := by
  intro s hs
  have hs1 := hs.step (c := LBRACE) (by decide)
  obtain ⟨s2, w2, hr2, e2⟩ := braceLoop_spec buf r n hn (buf.size + 1) _ hs1.g.w hs1.rest hs1.fuel
  have g3 : G buf (s2.step RBRACE) := G.step w2 hr2.head (by decide)
  refine ⟨s2.step RBRACE, ?_, g3, hr2.tail⟩
  unfold readEscape
  rw [bind_eq (pRead_at hs), if_neg (by decide), if_neg (by decide), if_pos (by decide), pOfs_bind, pSize_bind hs1.g.w,
    bind_eq e2, pOfs_bind, step_ofs s2 RBRACE, Nat.add_sub_cancel, bind_eq (pSlice_rest g3.w hs1.rest hr2 hr2.lt)]
  rfl

/-- The first byte of a name is none of the bytes `read_escape` treats specially. -/
theorem identChar_plain {c : UInt8} (h : isIdentChar c false = true) :
    c ≠ NL ∧ (c == SP || c == DOLLAR || c == COLON) = false ∧ c ≠ LBRACE := by
  refine ⟨identChar_ne h (by decide), ?_, identChar_ne h (by decide)⟩
  rw [byte_beq_false (identChar_ne (x := SP) h (by decide)), byte_beq_false (identChar_ne (x := DOLLAR) h (by decide)),
    byte_beq_false (identChar_ne (x := COLON) h (by decide))]
  rfl

/-- `$name`: the first byte is read and put back, then the name is read. -/
theorem readEscape_simple (buf : Array UInt8) (n : Bytes) (hne : n ≠ []) (hn : ∀ c ∈ n, isIdentChar c false = true)
    (nx : UInt8) (hnx : isIdentChar nx false = false) (r : Bytes) :
    Reads buf readEscape (.var n) (n ++ nx :: r) (nx :: r) := by
  intro s hs
  obtain ⟨c0, n', rfl⟩ : ∃ c0 n', n = c0 :: n' := List.exists_cons_of_ne_nil hne
  obtain ⟨s3, h3, hs3⟩ := readIdentGen_reads buf false "failed to scan variable name" (c0 :: n') hne hn nx r hnx s hs
  have hc0 := identChar_plain (hn c0 List.mem_cons_self)
  refine ⟨s3, ?_, hs3⟩
  unfold readEscape
  rw [bind_eq (pRead_at hs), if_neg (byte_not_beq hc0.1), if_neg (ne_true_of_eq_false hc0.2.1),
    if_neg (byte_not_beq hc0.2.2), bind_eq (pBack_at hs)]
  exact (bind_eq h3).trans rfl

theorem readEscape_reads (buf : Array UInt8) (e : Esc) (nx : UInt8) (r : Bytes) (hwf : EscWF e nx) :
    Reads buf readEscape (escPart e) (escBytes e ++ nx :: r) (nx :: r) := by
  cases e with
  | cont k => exact readEscape_cont buf k nx r hwf
  | ch c => exact readEscape_ch buf c hwf _
  | braced n =>
    have := readEscape_braced buf n hwf (nx :: r)
    simpa only [escBytes, escPart, List.cons_append, List.append_assoc, List.nil_append] using this
  | simple n => exact readEscape_simple buf n hwf.1 hwf.2.1 nx hwf.2.2 r

/-- A byte of literal text (`sep`: paths on a `build` line also stop at space, `:` and `|`). -/
def plain (sep : Bool) (c : UInt8) : Prop :=
  c ≠ NUL ∧ c ≠ NL ∧ c ≠ DOLLAR ∧ c ≠ CR ∧ (sep = true → c ≠ SP ∧ c ≠ COLON ∧ c ≠ PIPE)

def stops (sep : Bool) (t : UInt8) : Prop := t = NL ∨ (sep = true ∧ (t = SP ∨ t = COLON ∨ t = PIPE))

abbrev Seg := Bytes × Esc

def segBytes (sg : Seg) : Bytes := sg.1 ++ DOLLAR :: escBytes sg.2
def segsBytes (segs : List Seg) : Bytes := segs.flatMap segBytes
def segParts (sg : Seg) : List Part := (if sg.1.isEmpty then [] else [Part.lit sg.1]) ++ [escPart sg.2]

/-- Literal runs are plain text and each escape is well-formed w.r.t. the byte that follows it. -/
def SegsWF (sep : Bool) : List Seg → Bytes → Prop
  | [], _ => True
  | sg :: segs, tail => (∀ c ∈ sg.1, plain sep c) ∧
      (∃ nx x, segsBytes segs ++ tail = nx :: x ∧ EscWF sg.2 nx) ∧ SegsWF sep segs tail

theorem segsBytes_cons (sg : Seg) (segs : List Seg) : segsBytes (sg :: segs) = segBytes sg ++ segsBytes segs := by
  simp [segsBytes]

/-- The loop's test for the end of the text, on a byte of literal text and on a terminator. -/
theorem stopTest_plain {sep : Bool} {c : UInt8} (hc : plain sep c) :
    (c == NL || (sep && (c == SP || c == COLON || c == PIPE))) = false := by
  have e : (c == NL) = false := byte_beq_false hc.2.1
  cases sep with
  | false => rw [e]; rfl
  | true =>
    have h := hc.2.2.2.2 rfl
    rw [e, byte_beq_false h.1, byte_beq_false h.2.1, byte_beq_false h.2.2]; rfl

theorem stopTest_stops {sep : Bool} {t : UInt8} (ht : stops sep t) :
    t ≠ NUL ∧ (t == NL || (sep && (t == SP || t == COLON || t == PIPE))) = true := by
  rcases ht with h | ⟨hs, h | h | h⟩
  · subst h; exact ⟨by decide, rfl⟩
  all_goals subst h; subst hs; exact ⟨by decide, by decide⟩

theorem evalLoop_plain {sep : Bool} {c : UInt8} (hc : plain sep c) (fuel ofs : Nat) (acc : List Part) {s s1 : Scanner}
    (h1 : pRead s = .ok c s1) : evalLoop sep (fuel + 1) ofs acc s = evalLoop sep fuel ofs acc s1 := by
  conv => lhs; unfold evalLoop
  rw [bind_eq h1, if_neg (byte_not_beq hc.1), if_neg (ne_true_of_eq_false (stopTest_plain hc)),
    if_neg (byte_not_beq hc.2.2.1)]

theorem evalLoop_lit (buf : Array UInt8) (sep : Bool) (x : Bytes) (l : Bytes) : (∀ c ∈ l, plain sep c) →
    ∀ (fuel : Nat) (ofs : Nat) (acc : List Part) (s : Scanner), At buf s (l ++ x) → (l ++ x).length ≤ fuel →
    ∃ fuel' s', evalLoop sep fuel ofs acc s = evalLoop sep fuel' ofs acc s' ∧ x.length ≤ fuel' ∧ At buf s' x := by
  induction l with
  | nil => intro _ fuel ofs acc s hs hf; exact ⟨fuel, s, rfl, hf, hs⟩
  | cons c l ih =>
    intro hp fuel ofs acc s hs hf
    obtain ⟨fuel, rfl, hf'⟩ := fuel_cons hf
    have hc := hp c List.mem_cons_self
    obtain ⟨fuel', s', e, hf', hs'⟩ := ih (fun y hy => hp y (List.mem_cons_of_mem _ hy)) fuel ofs acc _
      (hs.step ⟨hc.1, hc.2.2.2.1⟩) hf'
    exact ⟨fuel', s', (evalLoop_plain hc fuel ofs acc (pRead_at hs)).trans e, hf', hs'⟩

theorem pendingLit_eq {buf : Array UInt8} {s : Scanner} {a b : Nat} {l : Bytes} {c : UInt8} {y : Bytes} (w : SW buf s)
    (acc : List Part) (h1 : Rest buf a (l ++ c :: y)) (h2 : Rest buf b (c :: y)) :
    (if b > a then do let lit ← pSlice a b; pure (acc ++ [Part.lit lit]) else pure acc) s
      = .ok (acc ++ (if l.isEmpty then [] else [Part.lit l])) s := by
  have e := h1.ofs_add h2 h2.lt
  cases l with
  | nil => rw [if_neg (by simp [e]), List.isEmpty_nil, if_pos rfl, List.append_nil]; rfl
  | cons x l =>
    rw [if_pos (by simp [e]), bind_eq (pSlice_rest w h1 h2 h2.lt)]
    rfl

/-- `o` is where the last literal starts. -/
theorem evalLoop_spec (buf : Array UInt8) (sep : Bool) (last : Bytes) (t : UInt8) (r : Bytes)
    (hlast : ∀ c ∈ last, plain sep c) (ht : stops sep t) (segs : List Seg) :
    SegsWF sep segs (last ++ t :: r) → ∀ (fuel : Nat) (acc : List Part) (s : Scanner),
    At buf s (segsBytes segs ++ last ++ t :: r) → (segsBytes segs ++ last ++ t :: r).length ≤ fuel →
    ∃ o s', evalLoop sep fuel s.ofs acc s = .ok (acc ++ segs.flatMap segParts, o, s'.ofs) s' ∧
      Rest buf o (last ++ t :: r) ∧ At buf s' (t :: r) := by
  induction segs with
  | nil =>
    intro _ fuel acc s hs hf
    simp only [segsBytes, List.flatMap_nil, List.nil_append] at hs hf
    obtain ⟨fuel1, s1, e1, hf1, hs1⟩ := evalLoop_lit buf sep (t :: r) last hlast fuel s.ofs acc s hs hf
    obtain ⟨fuel2, rfl, _⟩ := fuel_cons hf1
    refine ⟨s.ofs, s1, ?_, hs.rest, hs1⟩
    rw [e1]
    unfold evalLoop
    rw [bind_eq (pRead_at hs1), if_neg (byte_not_beq (stopTest_stops ht).1), if_pos (stopTest_stops ht).2,
      bind_eq (pBack_at hs1), pOfs_bind, List.flatMap_nil, List.append_nil]
    rfl
  | cons sg segs ih =>
    intro hwf fuel acc s hs hf
    obtain ⟨l, e⟩ := sg
    obtain ⟨hl, ⟨nx, x, hnx, hewf⟩, hwf'⟩ := hwf
    have hnx' : segsBytes segs ++ last ++ t :: r = nx :: x := by rw [List.append_assoc]; exact hnx
    have hbytes : segsBytes ((l, e) :: segs) ++ last ++ t :: r = l ++ DOLLAR :: (escBytes e ++ nx :: x) := by
      rw [segsBytes_cons, ← hnx]; simp [segBytes, List.append_assoc]
    rw [hbytes] at hs hf
    obtain ⟨fuel1, s1, e1, hf1, hs1⟩ := evalLoop_lit buf sep _ l hl fuel s.ofs acc s hs hf
    obtain ⟨fuel2, rfl, hf2⟩ := fuel_cons hf1
    obtain ⟨s3, h3, hs3⟩ := readEscape_reads buf e nx x hewf _ (hs1.step (c := DOLLAR) (by decide))
    rw [← hnx'] at hs3
    obtain ⟨o, s', h', hro, hs'⟩ := ih hwf' fuel2 (acc ++ (if l.isEmpty then [] else [Part.lit l]) ++ [escPart e]) s3 hs3
      (hnx' ▸ fuel_append hf2)
    refine ⟨o, s', ?_, hro, hs'⟩
    rw [e1]
    unfold evalLoop
    rw [bind_eq (pRead_at hs1), if_neg (by decide), if_neg (by cases sep <;> decide), if_pos (by decide), pOfs_bind,
      step_ofs s1 DOLLAR, Nat.add_sub_cancel, bind_eq (pendingLit_eq (hs1.g.w.step hs1.rest.head) acc hs.rest hs1.rest),
      bind_eq h3, pOfs_bind, h']
    simp [segParts, List.append_assoc]

/-- The value `read_eval` returns for a text made of segments and a last literal. -/
def textParts (segs : List Seg) (last : Bytes) : List Part :=
  segs.flatMap segParts ++ (if last.isEmpty then [] else [Part.lit last])

theorem readEval_reads (buf : Array UInt8) (sep : Bool) (segs : List Seg) (last : Bytes) (t : UInt8) (r : Bytes)
    (hwf : SegsWF sep segs (last ++ t :: r)) (hlast : ∀ c ∈ last, plain sep c) (ht : stops sep t)
    (hne : textParts segs last ≠ []) :
    Reads buf (readEval sep) (textParts segs last) (segsBytes segs ++ last ++ t :: r) (t :: r) := by
  intro s hs
  obtain ⟨o, s1, h1, hro, hs1⟩ := evalLoop_spec buf sep last t r hlast ht segs hwf (buf.size + 1) [] s hs hs.fuel
  refine ⟨s1, ?_, hs1⟩
  unfold textParts at hne
  unfold readEval
  rw [pOfs_bind, pSize_bind hs.g.w, bind_eq h1]
  simp only [List.nil_append]
  rw [bind_eq (pendingLit_eq hs1.g.w _ hro hs1.rest), if_neg fun h => hne (List.isEmpty_iff.mp h)]
  rfl

/-- **`read_eval` at byte level**: for text made of literal runs, `$var` / `${var}` references,
    `$ ` `$$` `$:` escapes and `$`-newline continuations (followed by any indentation), up to the
    newline — or the space, `:` or `|` that ends a path — it returns exactly the corresponding
    parts, and stops at that terminator. -/
theorem readEval_spec (buf : Array UInt8) (sep : Bool) (segs : List Seg) (last : Bytes) (t : UInt8) (r : Bytes)
    (hwf : SegsWF sep segs (last ++ t :: r)) (hlast : ∀ c ∈ last, plain sep c) (ht : stops sep t)
    (hne : textParts segs last ≠ []) (s : Scanner) (g : G buf s)
    (hr : Rest buf s.ofs (segsBytes segs ++ last ++ t :: r)) :
    ∃ s', readEval sep s = .ok (textParts segs last) s' ∧ G buf s' ∧ Rest buf s'.ofs (t :: r) :=
  (readEval_reads buf sep segs last t r hwf hlast ht hne).run g hr

/-- **`$var` versus `${var}`**: two texts that differ only in how references are spelled are
    read as the same value. -/
theorem readEval_brace_independent (buf buf' : Array UInt8) (sep : Bool) (segs segs' : List Seg) (last : Bytes)
    (t t' : UInt8) (r r' : Bytes)
    (hsame : segs.map (fun sg => (sg.1, escPart sg.2)) = segs'.map (fun sg => (sg.1, escPart sg.2)))
    (hwf : SegsWF sep segs (last ++ t :: r)) (hwf' : SegsWF sep segs' (last ++ t' :: r'))
    (hlast : ∀ c ∈ last, plain sep c) (ht : stops sep t) (ht' : stops sep t')
    (hne : textParts segs last ≠ []) (s s' : Scanner) (g : G buf s) (g' : G buf' s')
    (hr : Rest buf s.ofs (segsBytes segs ++ last ++ t :: r))
    (hr' : Rest buf' s'.ofs (segsBytes segs' ++ last ++ t' :: r')) :
    ∃ v s1 s1', readEval sep s = .ok v s1 ∧ readEval sep s' = .ok v s1' := by
  have hparts : textParts segs last = textParts segs' last := by
    unfold textParts
    congr 1
    have : ∀ l : List Seg, l.flatMap segParts
        = (l.map (fun sg => (sg.1, escPart sg.2))).flatMap (fun p => (if p.1.isEmpty then [] else [Part.lit p.1]) ++ [p.2]) := by
      intro l; induction l with
      | nil => rfl
      | cons a l ih => simp [segParts, ih]
    rw [this segs, this segs', hsame]
  obtain ⟨s1, h1, _, _⟩ := readEval_spec buf sep segs last t r hwf hlast ht hne s g hr
  obtain ⟨s1', h1', _, _⟩ := readEval_spec buf' sep segs' last t' r' hwf' hlast ht' (by rw [← hparts]; exact hne) s' g' hr'
  exact ⟨textParts segs last, s1, s1', h1, by rw [hparts]; exact h1'⟩

end N2V.Parse
