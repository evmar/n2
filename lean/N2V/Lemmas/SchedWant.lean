/-
  The want phase (`want_file`/`want_build` and their loops) changes the state only by `set`ting
  builds that were `Unknown` to `Want` or `Ready`.  So it relates the state it starts from to the
  state it leaves by any preorder that contains those `set`s (`want_relates`, an instance of the
  rules of Lemmas/SchedWantRec, which cover the re-entrant second visit of a build that validation
  edges make possible); in particular it keeps any predicate they keep, and it never creates,
  removes or changes a `Queued`, `Running`, `Done` or `Failed` state (`LateEq`).
-/
import N2V.Lemmas.SchedBasic
import N2V.Lemmas.SchedWantRec
namespace N2V.Sched

def late (x : St) : Prop := x = .queued ∨ x = .running ∨ x = .done ∨ x = .failed

/-- `s'` has exactly the same queued/running/done/failed builds as `s`. -/
def LateEq (s s' : S) : Prop :=
  (∀ b x, late x → (s'.st b = x ↔ s.st b = x)) ∧ s'.running = s.running ∧
  s'.tasksFailed = s.tasksFailed ∧ s'.tasksRun = s.tasksRun

theorem LateEq.refl (s : S) : LateEq s s := ⟨fun _ _ _ => Iff.rfl, rfl, rfl, rfl⟩

theorem LateEq.trans {a b c : S} (h1 : LateEq a b) (h2 : LateEq b c) : LateEq a c :=
  ⟨fun x y hy => (h2.1 x y hy).trans (h1.1 x y hy), h2.2.1.trans h1.2.1,
   h2.2.2.1.trans h1.2.2.1, h2.2.2.2.trans h1.2.2.2⟩

theorem set_lateEq {g : Graph} {s s' : S} {id : Nat} {new : St} (h : set g s id new = .ok s')
    (hnew : new = .want ∨ new = .ready) (hprev : ¬ late (s.st id)) : LateEq s s' := by
  refine ⟨fun b x hx => ?_, set_running h, set_tasksFailed h, set_tasksRun h⟩
  by_cases e : b = id
  · rw [e, set_st_self h]
    exact ⟨fun e => by rcases hnew with rfl | rfl <;> simp [← e, late] at hx,
      fun e => absurd (e ▸ hx) hprev⟩
  · rw [set_st_ne h e]

/-- `Q` holds of the state a want phase ends in: after success, and after an error such as a
    dependency cycle raised part-way (the marking already done stays). -/
def WRKeep {α : Type} (Q : S → Prop) : WR α → Prop
  | .ok _ s' => Q s'
  | .err _ s' => Q s'
  | .bad _ => True

theorem WRKeep.imp {α : Type} {P Q : S → Prop} (h : ∀ s, P s → Q s) : ∀ {w : WR α}, WRKeep P w → WRKeep Q w
  | .ok _ _, k => h _ k
  | .err _ _, k => h _ k
  | .bad _, _ => trivial

theorem WRKeep.of_ok {α : Type} {Q : S → Prop} {w : WR α} {a : α} {s' : S} (h : WRKeep Q w) (e : w = .ok a s') : Q s' := by
  subst e; exact h

theorem WRKeep.of_err {α : Type} {Q : S → Prop} {w : WR α} {m : String} {s' : S} (h : WRKeep Q w)
    (e : w = .err m s') : Q s' := by
  subst e; exact h

section
variable {g : Graph} {R : S → S → Prop} (refl : ∀ s, R s s) (trans : ∀ {a b c}, R a b → R b c → R a c)
  (hset : ∀ s s1 s2 id new, s.st id = .unknown → R s s1 → (new = St.ready ∨ new = St.want) →
    set g s1 id new = .ok s2 → R s1 s2)
include refl trans hset

/-- A preorder `R` that contains every `set … Want/Ready` of the want phase relates the state a
    successful call starts from to the state it leaves.  Such a `set` changes a state `s1` reached
    (`R s s1`) from a state `s` in which the build was `Unknown`. -/
theorem want_rel_ok :
    WantOk g (fun s _ _ _ s' => R s s') (fun s _ _ _ s' => R s s') (fun s _ _ _ _ s' => R s s') where
  leaf := fun _ => refl _
  file := fun _ _ hb => hb
  known := fun _ => refl _
  build := fun {_ _ _ _ rd _ _ _ _} hu _ hi hs _ hv =>
    trans (trans hi (hset _ _ _ _ _ hu hi (by cases rd <;> simp) hs)) hv
  nil := refl _
  cons := fun _ hf _ hi => trans hf hi

/-- ... and so it does when the call stops with a dependency-cycle error (the marking already
    done stays). -/
theorem want_rel_err :
    WantErr g (fun s _ _ _ s' => R s s') (fun s _ _ _ s' => R s s') (fun s _ _ _ s' => R s s') where
  cycle := fun _ => refl _
  file := fun _ hb => hb
  ordering := fun _ hi => hi
  validation := fun {_ _ _ _ rd _ _ _ _} hu e1 hs hv =>
    have hi := (want_rel_ok refl trans hset).of_ins e1
    trans (trans hi (hset _ _ _ _ _ hu hi (by cases rd <;> simp) hs)) hv
  head := fun hf => hf
  tail := fun e1 hi => trans ((want_rel_ok refl trans hset).of_file e1) hi

theorem want_relates (s : S) (f : Nat) : WRKeep (R s) (want g s f) := by
  cases h : want g s f with
  | ok _ s' => exact let ⟨_, r⟩ := (want_rel_ok refl trans hset).of_want h; r
  | err m s' => exact (want_rel_err refl trans hset).of_want h
  | bad _ => trivial

end

theorem want_keep (g : Graph) (Q : S → Prop)
    (hQ : ∀ s s' id new, Q s → (new = St.ready ∨ new = St.want) → set g s id new = .ok s' → Q s')
    (s : S) (f : Nat) (q : Q s) : WRKeep Q (want g s f) :=
  (want_relates (R := fun s s' => Q s → Q s') (fun _ q => q) (fun h1 h2 q => h2 (h1 q))
    (fun _ s1 s2 id new _ _ hn hs q => hQ s1 s2 id new q hn hs) s f).imp (fun _ h => h q)

theorem want_lateEq_all {g : Graph} {s : S} {f : Nat} : WRKeep (LateEq s) (want g s f) :=
  want_relates LateEq.refl LateEq.trans (fun s s1 _ id _ hu r hn hs =>
    -- `id` is still not late in `s1`: it was `Unknown` in `s`
    set_lateEq hs hn.symm fun hl => by
      have := (r.1 id _ hl).mp rfl
      rw [hu] at this
      simp [← this, late] at hl) s f

/-- `Work::want_file` never changes which builds are queued, running, done or failed. -/
theorem want_lateEq {g : Graph} {s s' : S} {f : Nat} (h : want g s f = .ok () s') : LateEq s s' :=
  want_lateEq_all.of_ok h

/-- ... also when it fails part-way (e.g. with a dependency cycle). -/
theorem want_lateEq_err {g : Graph} {s s' : S} {f : Nat} {m : String} (h : want g s f = .err m s') :
    LateEq s s' :=
  want_lateEq_all.of_err h

end N2V.Sched
