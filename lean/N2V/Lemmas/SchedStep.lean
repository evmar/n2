/-
  The operations `Work::run` is made of — `pop_queued`, `pop_ready`, `ready_dependents` with its
  promotion loop, `enqueue`, starting a command, a command finishing: what each does to the state,
  and that each keeps the scheduler invariant.
-/
import N2V.Lemmas.SchedRun
import N2V.Lemmas.SchedFrame
namespace N2V.Sched

theorem popQueued_some {ps ps' : List Pool} {id : Nat} (h : popQueued ps = some (id, ps')) :
    ∃ l p q r, ps = l ++ p :: r ∧ (p.depth = 0 ∨ p.running < p.depth) ∧ p.queued = id :: q ∧
      ps' = l ++ { p with queued := q } :: r := by
  induction ps generalizing ps' with
  | nil => cases h
  | cons p0 rest ih =>
    have tail : (popQueued rest).map (fun r => (r.1, p0 :: r.2)) = some (id, ps') →
        ∃ l p q r, p0 :: rest = l ++ p :: r ∧ (p.depth = 0 ∨ p.running < p.depth) ∧ p.queued = id :: q ∧
          ps' = l ++ { p with queued := q } :: r := fun h => by
      obtain ⟨⟨_, rps⟩, hr, he⟩ := Option.map_eq_some_iff.mp h
      cases he
      obtain ⟨l, p, q, r, rfl, hroom, hq, rfl⟩ := ih hr
      exact ⟨p0 :: l, p, q, r, rfl, hroom, hq, rfl⟩
    unfold popQueued at h
    split at h
    · rename_i hroom
      split at h
      · rename_i q hq; cases h; exact ⟨[], p0, q, rest, rfl, hroom, hq, rfl⟩
      · exact tail h
    · exact tail h

def popQ (name : Bytes) (q : List Nat) (p : Pool) : Pool :=
  if p.name = name then { p with queued := q } else p

theorem popQueued_spec (ps ps' : List Pool) (id : Nat) (hnd : (ps.map (·.name)).Nodup)
    (h : popQueued ps = some (id, ps')) :
    ∃ p q, p ∈ ps ∧ p.queued = id :: q ∧ (p.depth = 0 ∨ p.running < p.depth) ∧
      ps' = ps.map (popQ p.name q) := by
  obtain ⟨l, p, q, r, rfl, hroom, hq, rfl⟩ := popQueued_some h
  exact ⟨p, q, by simp, hq, hroom, (map_named hnd fun x => { x with queued := q }).symm⟩

theorem popQueued_eq_none {ps : List Pool} :
    popQueued ps = none ↔ ∀ p ∈ ps, (p.depth = 0 ∨ p.running < p.depth) → p.queued = [] := by
  induction ps with
  | nil => exact ⟨nofun, fun _ => rfl⟩
  | cons p0 rest ih =>
    unfold popQueued
    rw [List.forall_mem_cons]
    split
    · rename_i hroom
      split
      · rename_i hq
        exact ⟨nofun, fun h => by have := h.1 hroom; rw [hq] at this; cases this⟩
      · rename_i hq
        rw [Option.map_eq_none_iff, ih]
        exact ⟨fun h => ⟨fun _ => hq, h⟩, fun h => h.2⟩
    · rename_i hroom
      rw [Option.map_eq_none_iff, ih]
      exact ⟨fun h => ⟨fun hr => absurd hr hroom, h⟩, fun h => h.2⟩

theorem Inv.popped_queued {g : Graph} {par : Nat} {s : S} (inv : Inv g par s) {id : Nat} {pools : List Pool}
    (h : popQueued s.pools = some (id, pools)) : s.st id = .queued := by
  obtain ⟨p, q, hp, hq, -, -⟩ := popQueued_spec _ _ _ inv.poolNames h
  exact (inv.queuedSt p hp id (by simp [hq])).1

theorem InvCore.congr {g : Graph} {s s' : S} (inv : InvCore g s) (h1 : s'.st = s.st)
    (h2 : s'.counts = s.counts) (h3 : s'.pending = s.pending) (h4 : s'.ready = s.ready)
    (h5 : s'.pools = s.pools) : InvCore g s' :=
  { valid := by rw [h1]; exact inv.valid, readySt := by rw [h1, h4]; exact inv.readySt,
    readyNodup := by rw [h4]; exact inv.readyNodup, poolNames := by rw [h5]; exact inv.poolNames,
    queuedSt := by rw [h1, h5]; exact inv.queuedSt, queuedNodup := by rw [h5]; exact inv.queuedNodup,
    poolRunning := by rw [h1, h5]; exact inv.poolRunning, counts := by rw [h1, h2]; exact inv.counts,
    pending := by rw [h1, h3]; exact inv.pending, ordered := by rw [h1]; exact inv.ordered }

theorem Inv.congr {g : Graph} {par : Nat} {s s' : S} (inv : Inv g par s) (h1 : s'.st = s.st)
    (h2 : s'.counts = s.counts) (h3 : s'.pending = s.pending) (h4 : s'.ready = s.ready)
    (h5 : s'.pools = s.pools) (h6 : s'.running = s.running) : Inv g par s' :=
  { inv.toInvCore.congr h1 h2 h3 h4 h5 with
    running := by rw [h1, h6]; exact inv.running, parBound := by rw [h6]; exact inv.parBound,
    depthBound := by rw [h5]; exact inv.depthBound }

theorem resToRun_inl {s0 s1 : S} {r : Res S} (h : resToRun s0 r = .inl s1) : r = .ok s1 := by
  unfold resToRun at h
  split at h
  · cases h; rfl
  all_goals cases h

variable {g : Graph} {par : Nat} {s s1 : S} {id : Nat} {rest : List Nat}

theorem Inv.pop_ready (inv : Inv g par s) (hr : s.ready = id :: rest) :
    Inv g par { s with ready := rest } ∧ s.st id = .ready ∧ id < g.nBuilds ∧ id ∉ rest := by
  have hst : s.st id = .ready := inv.readySt id (by simp [hr])
  have hnd : id ∉ rest ∧ rest.Nodup := by simpa [hr] using inv.readyNodup
  exact ⟨{ inv with readySt := fun x hx => inv.readySt x (by simp [hr, hx]), readyNodup := hnd.2 },
    hst, inv.valid id (by simp [hst]), hnd.1⟩

/-- The popped build set to `Done` (it was clean, or adopted) or `Queued` (it has to run). -/
theorem popped_set_inv {new : St} (inv : Inv g par s) (hr : s.ready = id :: rest)
    (hnew : new = .done ∨ new = .queued) (h : set g { s with ready := rest } id new = .ok s1) :
    Inv g par s1 := by
  obtain ⟨inv0, hst, hid, hni⟩ := inv.pop_ready hr
  have hne : new ≠ .unknown ∧ new ≠ .running := by rcases hnew with rfl | rfl <;> simp
  exact set_inv inv0 h hid hne.1 (by simp [hst]) (fun _ => hni) (by simp [hst])
    (fun _ => inv.ordered id (by simp [hst, gated])) (runDelta_zero (by simp [hst]) hne.2)

theorem mem_dedup (l : List Nat) (x : Nat) : x ∈ dedup l ↔ x ∈ l := by
  induction l with
  | nil => simp [dedup]
  | cons a l ih =>
    unfold dedup
    split
    · rename_i h
      simp at h
      rw [ih]; simp
      intro e; subst e; exact h
    · simp [ih]

theorem nodup_dedup (l : List Nat) : (dedup l).Nodup := by
  induction l with
  | nil => simp [dedup]
  | cons a l ih =>
    unfold dedup
    split
    · exact ih
    · rename_i h
      simp at h
      simp [ih]
      intro hm; exact h ((mem_dedup l a).mp hm)

theorem nodup_orderBy (perm cands : List Nat) (hc : cands.Nodup) : (orderBy perm cands).Nodup := by
  unfold orderBy
  rw [List.nodup_append]
  refine ⟨nodup_dedup _, hc.filter _, ?_⟩
  intro a ha b hb
  rw [mem_dedup] at ha
  simp at ha hb
  intro e; subst e
  exact hb.2 ha.1

theorem mem_orderBy_iff {perm cands : List Nat} {x : Nat} : x ∈ orderBy perm cands ↔ x ∈ cands := by
  unfold orderBy
  by_cases hp : x ∈ perm <;> simp [mem_dedup, hp]

theorem mem_promotable_iff {g : Graph} {s : S} {id d : Nat} :
    d ∈ promotable g s id ↔
      d ∈ (g.build id).outs.flatMap g.dependents ∧ s.st d = .want ∧ recheckReady g s d = true := by
  simp [promotable, mem_dedup]

theorem promoted_spec {g : Graph} {s : S} {id d : Nat} {perm : List Nat}
    (h : d ∈ orderBy perm (promotable g s id)) : s.st d = .want ∧ recheckReady g s d = true :=
  (mem_promotable_iff.mp (mem_orderBy_iff.mp h)).2

theorem promote_cons_ok {g : Graph} {s s' : S} {d : Nat} {ds : List Nat} :
    promote g s (d :: ds) = .ok s' ↔ ∃ s1, set g s d .ready = .ok s1 ∧ promote g s1 ds = .ok s' := by
  simp only [promote]
  split
  · rename_i s1 hs; simp [hs]
  · rename_i hne
    exact ⟨fun h => absurd h (hne s'), fun ⟨s1, hs, _⟩ => absurd hs (hne s1)⟩

theorem readyDependents_ok_iff {s s' : S} {perm : List Nat} :
    readyDependents g s id perm = .ok s' ↔
      ∃ s1, set g s id .done = .ok s1 ∧ promote g s1 (orderBy perm (promotable g s1 id)) = .ok s' := by
  unfold readyDependents
  split
  · rename_i s1 hs; simp [hs]
  · rename_i hne
    exact ⟨fun h => absurd h (hne s'), fun ⟨s1, hs, _⟩ => absurd hs (hne s1)⟩

theorem promote_spec {l : List Nat} {s s' : S} (h : promote g s l = .ok s') :
    (∀ b, s'.st b = if b ∈ l then .ready else s.st b) ∧ s'.ready = s.ready ++ l := by
  induction l generalizing s with
  | nil => cases h; simp
  | cons d ds ih =>
    obtain ⟨s1, hs, hp⟩ := promote_cons_ok.mp h
    obtain ⟨i1, i2⟩ := ih hp
    refine ⟨fun b => ?_, by rw [i2, set_ready hs]; simp⟩
    rw [i1, set_st hs]
    by_cases e : b = d
    · subst e; simp
    · simp [e, upd_ne e]

theorem promote_rel {R : S → S → Prop} (refl : ∀ s, R s s) (trans : ∀ {a b c}, R a b → R b c → R a c)
    (step : ∀ {s d s1}, set g s d .ready = .ok s1 → R s s1) {l : List Nat} {s s' : S}
    (h : promote g s l = .ok s') : R s s' := by
  induction l generalizing s with
  | nil => cases h; exact refl _
  | cons d ds ih =>
    obtain ⟨s1, hs, hp⟩ := promote_cons_ok.mp h
    exact trans (step hs) (ih hp)

theorem readyDependents_rel {R : S → S → Prop} (refl : ∀ s, R s s)
    (trans : ∀ {a b c}, R a b → R b c → R a c)
    (step : ∀ {s d new s1}, new = .done ∨ new = .ready → set g s d new = .ok s1 → R s s1)
    {s s' : S} {perm : List Nat} (h : readyDependents g s id perm = .ok s') : R s s' := by
  obtain ⟨s1, hs, hp⟩ := readyDependents_ok_iff.mp h
  exact trans (step (.inl rfl) hs) (promote_rel refl trans (step (.inr rfl)) hp)

theorem readyDependents_frm {s s' : S} {perm : List Nat} (h : readyDependents g s id perm = .ok s') :
    Frame s s' :=
  readyDependents_rel Frame.refl Frame.trans (fun _ hs => set_frm hs) h

theorem readyDependents_st {s s' : S} {perm : List Nat} (h : readyDependents g s id perm = .ok s')
    (b : Nat) : (b = id ∧ s'.st b = .done) ∨ (b ≠ id ∧ s.st b = .want ∧ s'.st b = .ready) ∨
      (b ≠ id ∧ s'.st b = s.st b) := by
  obtain ⟨s1, hs, hp⟩ := readyDependents_ok_iff.mp h
  rw [(promote_spec hp).1 b]
  by_cases e : b = id
  · refine .inl ⟨e, ?_⟩
    rw [if_neg fun hm => ?_, e, set_st_self hs]
    have := (promoted_spec hm).1
    rw [e, set_st_self hs] at this; cases this
  · refine .inr ?_
    split
    · rename_i hm
      exact .inl ⟨e, by rw [← set_st_ne hs e]; exact (promoted_spec hm).1, rfl⟩
    · exact .inr ⟨e, set_st_ne hs e⟩

/-- What the promotion loop of `ready_dependents` keeps: whatever each `set .. Ready` of a `Want`
    build that passes `recheck_ready` keeps, made in a state satisfying the invariant. -/
theorem promote_induct {P : S → Prop} {l : List Nat} {s s' : S}
    (step : ∀ {s d s1}, Inv g par s → P s → s.st d = .want → recheckReady g s d = true →
      set g s d .ready = .ok s1 → Inv g par s1 → P s1)
    (inv : Inv g par s) (hP : P s) (hl : l.Nodup)
    (hw : ∀ d ∈ l, s.st d = .want ∧ recheckReady g s d = true)
    (h : promote g s l = .ok s') : Inv g par s' ∧ P s' := by
  induction l generalizing s with
  | nil => cases h; exact ⟨inv, hP⟩
  | cons d ds ih =>
    obtain ⟨s1, hs, hp⟩ := promote_cons_ok.mp h
    obtain ⟨hd, hrr⟩ := hw d (by simp)
    have inv1 : Inv g par s1 := set_inv inv hs (inv.valid d (by simp [hd])) (by simp) (by simp [hd])
      (by simp [hd]) (by simp [hd]) (fun _ => recheckReady_iff.mp hrr) (runDelta_zero (by simp [hd]) (by simp))
    have hl' := List.nodup_cons.mp hl
    refine ih inv1 (step inv hP hd hrr hs inv1) hl'.2 (fun x hx => ?_) hp
    obtain ⟨hx1, hx2⟩ := hw x (by simp [hx])
    have hne : x ≠ d := fun e => hl'.1 (e ▸ hx)
    refine ⟨by rw [set_st_ne hs hne]; exact hx1, recheckReady_iff.mpr fun f hf p hp => ?_⟩
    have := recheckReady_iff.mp hx2 f hf p hp
    rw [set_st_ne hs (fun e => by rw [e, hd] at this; cases this)]; exact this

/-- `ready_dependents` is a `set .. Done` followed by such promotions. -/
theorem readyDependents_induct {P : S → Prop} {s0 s' : S} {perm : List Nat}
    (step : ∀ {s d s1}, Inv g par s → P s → s.st d = .want → recheckReady g s d = true →
      set g s d .ready = .ok s1 → Inv g par s1 → P s1)
    (first : ∀ {s1}, set g s0 id .done = .ok s1 → Inv g par s1 ∧ P s1)
    (h : readyDependents g s0 id perm = .ok s') : Inv g par s' ∧ P s' := by
  obtain ⟨s1, hs, hp⟩ := readyDependents_ok_iff.mp h
  obtain ⟨inv1, hP1⟩ := first hs
  exact promote_induct step inv1 hP1 (nodup_orderBy _ _ (nodup_dedup _)) (fun _ => promoted_spec) hp

/-- A ready build turned out clean (or was adopted): `ready_dependents` on it. -/
theorem clean_inv {perm : List Nat} (inv : Inv g par s) (hr : s.ready = id :: rest)
    (h : readyDependents g { s with ready := rest } id perm = .ok s1) : Inv g par s1 :=
  (readyDependents_induct (P := fun _ => True) (fun _ _ _ _ _ _ => trivial)
    (fun hs => ⟨popped_set_inv inv hr (.inl rfl) hs, trivial⟩) h).1

def addQ (name : Bytes) (id : Nat) (p : Pool) : Pool :=
  if p.name = name then { p with queued := p.queued ++ [id] } else p

@[simp] theorem addQ_name (n : Bytes) (i : Nat) (p : Pool) : (addQ n i p).name = p.name := by
  unfold addQ; split <;> rfl
@[simp] theorem addQ_running (n : Bytes) (i : Nat) (p : Pool) : (addQ n i p).running = p.running := by
  unfold addQ; split <;> rfl
@[simp] theorem addQ_depth (n : Bytes) (i : Nat) (p : Pool) : (addQ n i p).depth = p.depth := by
  unfold addQ; split <;> rfl
theorem addQ_queued (n : Bytes) (i : Nat) (p : Pool) :
    (addQ n i p).queued = if p.name = n then p.queued ++ [i] else p.queued := by
  unfold addQ; split <;> rfl

theorem modPool_queue_map (ps ps' : List Pool) (name : Bytes) (id : Nat)
    (hnd : (ps.map (·.name)).Nodup)
    (h : modPool ps name (fun p => { p with queued := p.queued ++ [id] }) = some ps') :
    ps' = ps.map (addQ name id) := by
  have := modPool_eq_map ps name _ ps' hnd h
  rw [this]; apply List.map_congr_left; intro p _; unfold addQ; rfl

theorem enqueueRun_inl {s s1 : S} (h : enqueueRun g s id = .inl s1) :
    ∃ s2 pools, set g s id .queued = .ok s2 ∧
      modPool s2.pools (g.build id).pool (fun p => { p with queued := p.queued ++ [id] }) = some pools ∧
      s1 = { s2 with pools := pools } := by
  unfold enqueueRun at h
  split at h
  · rename_i s2 hs
    split at h <;> cases h
    exact ⟨s2, _, hs, by assumption, rfl⟩
  · rename_i r hne; exact absurd (resToRun_inl h) (hne s1)

/-- `enqueue` (the dirty branch of the ready loop). -/
theorem enqueue_inv (inv : Inv g par s) (hr : s.ready = id :: rest)
    (h : enqueueRun g { s with ready := rest } id = .inl s1) : Inv g par s1 := by
  obtain ⟨s2, pools, hs, hm, rfl⟩ := enqueueRun_inl h
  have inv2 := popped_set_inv inv hr (.inr rfl) hs
  obtain ⟨-, hst, -, -⟩ := inv.pop_ready hr
  have hq2 : s2.st id = .queued := set_st_self hs
  -- `id` was Ready, so it is in no queue
  have hfree : ∀ p ∈ s2.pools, id ∉ p.queued := fun p hp hq => by
    rw [set_pools_eq hs (by simp [hst]) (by simp)] at hp
    have := (inv.queuedSt p hp id hq).1
    rw [hst] at this; cases this
  have hmem : ∀ p' ∈ pools, ∃ p ∈ s2.pools, p' = addQ (g.build id).pool id p := fun p' hp' => by
    rw [modPool_queue_map _ _ _ _ inv2.poolNames hm, List.mem_map] at hp'
    obtain ⟨p, hp, rfl⟩ := hp'
    exact ⟨p, hp, rfl⟩
  refine { inv2 with poolNames := ?_, queuedSt := fun p' hp' q hq => ?_, queuedNodup := fun p' hp' => ?_,
                     poolRunning := fun p' hp' => ?_, depthBound := fun p' hp' => ?_ }
  · exact (modPool_map_eq (·.name) hm (fun _ => rfl)).symm ▸ inv2.poolNames
  all_goals obtain ⟨p, hp, rfl⟩ := hmem p' hp'
  · rw [addQ_queued] at hq
    rw [addQ_name]
    split at hq
    · rename_i hn
      rcases List.mem_append.mp hq with hq | hq
      · exact inv2.queuedSt p hp q hq
      · rw [List.mem_singleton.mp hq]; exact ⟨hq2, hn.symm⟩
    · exact inv2.queuedSt p hp q hq
  · rw [addQ_queued]
    split
    · exact List.nodup_append.mpr ⟨inv2.queuedNodup p hp, by simp, fun a ha b hb e =>
        hfree p hp (by rw [← List.mem_singleton.mp hb, ← e]; exact ha)⟩
    · exact inv2.queuedNodup p hp
  · rw [addQ_running, addQ_name]; exact inv2.poolRunning p hp
  · rw [addQ_running, addQ_depth]; exact inv2.depthBound p hp

theorem pool_eq_of_name (ps : List Pool) (hnd : (ps.map (·.name)).Nodup) (x y : Pool)
    (hx : x ∈ ps) (hy : y ∈ ps) (h : x.name = y.name) : x = y := by
  induction ps with
  | nil => simp at hx
  | cons a rest ih =>
    simp at hnd hx hy
    rcases hx with rfl | hx <;> rcases hy with rfl | hy
    · rfl
    · exact absurd h.symm (hnd.1 y hy)
    · exact absurd h (hnd.1 x hx)
    · exact ih hnd.2 hx hy

/-- Starting a queued build (one iteration of the start loop). -/
theorem start_inv {pools : List Pool} (inv : Inv g par s) (hlt : s.running < par)
    (hpop : popQueued s.pools = some (id, pools))
    (h : set g { s with pools := pools } id .running = .ok s1) :
    Inv g par { s1 with running := s1.running + 1, trace := Ev.start id :: s1.trace } := by
  obtain ⟨p, q, hp, hq, hroom, rfl⟩ := popQueued_spec _ _ _ inv.poolNames hpop
  obtain ⟨hstid, hpool⟩ := inv.queuedSt p hp id (by simp [hq])
  have hid : id < g.nBuilds := inv.valid id (by simp [hstid])
  have hqnd : id ∉ q ∧ q.Nodup := by simpa [hq] using inv.queuedNodup p hp
  -- the pools after the pop: names, running counts and depths are the same; queues only shrink
  -- and no longer hold `id`
  have hmem : ∀ x' ∈ s.pools.map (popQ p.name q),
      ∃ x ∈ s.pools, x'.name = x.name ∧ x'.running = x.running ∧ x'.depth = x.depth ∧
        (∀ y ∈ x'.queued, y ∈ x.queued) ∧ x'.queued.Nodup ∧ id ∉ x'.queued := by
    intro x' hx'
    obtain ⟨x, hx, rfl⟩ := List.mem_map.mp hx'
    refine ⟨x, hx, ?_⟩
    unfold popQ
    split
    · rename_i hn
      rw [pool_eq_of_name _ inv.poolNames _ _ hx hp hn, hq]
      exact ⟨rfl, rfl, rfl, fun y hy => List.mem_cons_of_mem _ hy, hqnd.2, hqnd.1⟩
    · rename_i hn
      exact ⟨rfl, rfl, rfl, fun _ hy => hy, inv.queuedNodup x hx,
        fun hm => hn ((inv.queuedSt x hx id hm).2.symm.trans hpool)⟩
  have core0 : InvCore g { s with pools := s.pools.map (popQ p.name q) } :=
    { inv with
      poolNames := by
        show ((s.pools.map _).map _).Nodup
        rw [map_name_map fun x => by unfold popQ; split <;> rfl]
        exact inv.poolNames
      queuedSt := fun x' hx' y hy => by
        obtain ⟨x, hx, hn, -, -, hsub, -⟩ := hmem x' hx'
        rw [hn]; exact inv.queuedSt x hx y (hsub y hy)
      queuedNodup := fun x' hx' => (hmem x' hx').choose_spec.2.2.2.2.2.1
      poolRunning := fun x' hx' => by
        obtain ⟨x, hx, hn, hrn, -⟩ := hmem x' hx'
        rw [hrn, hn]; exact inv.poolRunning x hx }
  have hd : runDelta (s.st id) .running = 1 := by simp [runDelta, hstid]
  have core1 := set_core core0 h hid (by simp) (by simp [hstid]) (by simp [hstid])
    (fun _ x' hx' => (hmem x' hx').choose_spec.2.2.2.2.2.2)
    (fun _ => inv.ordered id (by simp [hstid, gated]))
  have hr := cnt_running_set h hid
  have hrun := set_running h
  dsimp only at hr hrun
  refine { core1 with running := ?_, parBound := ?_, depthBound := ?_ }
  · show s1.running + 1 = _
    rw [hrun, hr, hd, inv.running]
  · show s1.running + 1 ≤ par
    rw [hrun]; omega
  · show ∀ x ∈ s1.pools, _
    refine set_depthBound core0 h fun x' hx' hdp => ?_
    obtain ⟨x, hx, hn, hrn, hdep, -⟩ := hmem x' hx'
    rw [hdep] at hdp
    have hb := inv.depthBound x hx hdp
    dsimp only
    rw [hrn, hdep, hd]
    split
    · rename_i hnp
      -- this is the pool the build was popped from: it had room
      rw [pool_eq_of_name _ inv.poolNames _ _ hx hp (hn.symm.trans (hnp.trans hpool))] at hdp ⊢
      omega
    · omega

/-- The `set .. Done` / `set .. Failed` of a running build, the runner having counted it out. -/
theorem finished_inv {new : St} (s0 : S) (inv : Inv g par s) (hst : s.st id = .running)
    (hcore : s0.st = s.st ∧ s0.counts = s.counts ∧ s0.pending = s.pending ∧ s0.ready = s.ready ∧ s0.pools = s.pools)
    (hrun0 : s0.running = s.running - 1) (hnew : new = .done ∨ new = .failed)
    (h : set g s0 id new = .ok s1) : Inv g par s1 := by
  obtain ⟨c1, c2, c3, c4, c5⟩ := hcore
  have core0 : InvCore g s0 := inv.toInvCore.congr c1 c2 c3 c4 c5
  have hst0 : s0.st id = .running := by rw [c1]; exact hst
  have hid : id < g.nBuilds := inv.valid id (by simp [hst])
  have hne : new ≠ .unknown ∧ new ≠ .running := by rcases hnew with rfl | rfl <;> simp
  have hd : runDelta (s0.st id) new = -1 := by simp [runDelta, hst0, hne.2]
  have hr := cnt_running_set h hid
  rw [hd, c1] at hr
  refine { set_core core0 h hid hne.1 (by simp [hst0]) (by simp [hst0]) (by simp [hst0])
      (fun _ => core0.ordered id (by simp [hst0, gated])) with
    running := ?_, parBound := ?_, depthBound := ?_ }
  · rw [set_running h, hrun0]; have := inv.running; omega
  · rw [set_running h, hrun0]; have := inv.parBound; omega
  · refine set_depthBound core0 h fun p hp hdp => ?_
    have := inv.depthBound p (c5 ▸ hp) hdp
    rw [hd]; split <;> omega

/-- A running command failed. -/
theorem failed_inv (s0 : S) (inv : Inv g par s) (hst : s.st id = .running)
    (hcore : s0.st = s.st ∧ s0.counts = s.counts ∧ s0.pending = s.pending ∧ s0.ready = s.ready ∧ s0.pools = s.pools)
    (hrun0 : s0.running = s.running - 1)
    (h : set g s0 id .failed = .ok s1) : Inv g par s1 :=
  finished_inv s0 inv hst hcore hrun0 (.inr rfl) h

/-- A running command succeeded: `ready_dependents` on it. -/
theorem succeeded_inv {perm : List Nat} (s0 : S) (inv : Inv g par s) (hst : s.st id = .running)
    (hcore : s0.st = s.st ∧ s0.counts = s.counts ∧ s0.pending = s.pending ∧ s0.ready = s.ready ∧ s0.pools = s.pools)
    (hrun0 : s0.running = s.running - 1)
    (h : readyDependents g s0 id perm = .ok s1) : Inv g par s1 :=
  (readyDependents_induct (P := fun _ => True) (fun _ _ _ _ _ _ => trivial)
    (fun hs => ⟨finished_inv s0 inv hst hcore hrun0 (.inl rfl) hs, trivial⟩) h).1

end N2V.Sched
