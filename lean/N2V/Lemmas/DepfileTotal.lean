/-
  Totality of the depfile parser: for every byte string, `depfile::parse` returns entries or a
  parse error — it never reads outside the buffer, never steps back before its start, never
  wraps the line counter and never loops (the model's fuel `size + 1` is always enough).
-/
import N2V.Lemmas.Scanner
import N2V.Model.Depfile
namespace N2V.Depfile
open N2V N2V.Scanner
open N2V.Parse (Ok1 ok1_mono ok1_later expect_ok1)

theorem bsl_inner : BSL ≠ NUL ∧ BSL ≠ CR := by decide

theorem colon_inner : COLON ≠ NUL ∧ COLON ≠ CR := by decide

theorem bsl_ne_sp : BSL ≠ SP := by decide

theorem skipSpaces_succ {buf : Array UInt8} {s : Scanner} {c : UInt8} (g : G buf s) (hc : buf[s.ofs]? = some c)
    (fuel : Nat) :
    skipSpaces (fuel + 1) s =
      if c == SP then skipSpaces fuel (s.step c)
      else if c == BSL then
        match (s.step c).read with
        | .ok (c2, s2) => if c2 == NL then skipSpaces fuel s2 else parseError s2 "invalid backslash escape"
        | r => .ofRes r
      else .ok () s := by
  conv => lhs; unfold skipSpaces
  simp only [g.w.read hc, g.back_step hc]
  rfl

theorem skipBlank_succ {buf : Array UInt8} {s : Scanner} {c : UInt8} (w : SW buf s) (hc : buf[s.ofs]? = some c)
    (fuel : Nat) :
    skipBlank (fuel + 1) s = if c == SP || c == NL then skipBlank fuel (s.step c) else .ok () s := by
  conv => lhs; unfold skipBlank
  rw [w.peek hc, w.next hc]

theorem skipSpaces_fine (buf : Array UInt8) : ∀ (fuel : Nat) (s : Scanner), G buf s → buf.size - s.ofs < fuel →
    Ok1 buf.size (fun _ s' => G buf s' ∧ s.ofs ≤ s'.ofs) (skipSpaces fuel s) := by
  intro fuel
  induction fuel with
  | zero => intro s _ h; exact absurd h (Nat.not_lt_zero _)
  | succ fuel ih =>
    intro s g hf
    obtain ⟨c, hc⟩ := g.byte
    rw [skipSpaces_succ g hc]
    by_cases hsp : c = SP
    · subst hsp
      rw [if_pos (byte_beq_self _)]
      exact ok1_later (ih _ (G.step g.w hc sp_inner) (fuel_succ g.lt hf (Nat.lt_succ_self _))) (Nat.le_succ _)
    · rw [if_neg (byte_not_beq hsp)]
      by_cases hbs : c = BSL
      · subst hbs
        have g1 := G.step g.w hc bsl_inner
        obtain ⟨c2, hc2⟩ := g1.byte
        rw [if_pos (byte_beq_self _), g1.w.read hc2]
        simp only []
        by_cases hnl : c2 = NL
        · subst hnl
          rw [if_pos (byte_beq_self _)]
          exact ok1_later (ih _ (G.step g1.w hc2 nl_inner)
            (fuel_succ g.lt hf (Nat.lt_succ_of_lt (Nat.lt_succ_self _)))) (Nat.le_add_right _ 2)
        · rw [if_neg (byte_not_beq hnl)]
          exact (g1.w.step hc2).le
      · rw [if_neg (byte_not_beq hbs)]
        exact ⟨g, Nat.le_refl _⟩

/-- The loop of `read_path`, started at `start`. -/
theorem readPathLoop_fine (buf : Array UInt8) (start : Nat) : ∀ (fuel : Nat) (s : Scanner),
    SW buf s → s.ofs < buf.size → start ≤ s.ofs → (s.ofs = start → NCR buf start) → buf.size - s.ofs < fuel →
    Ok1 buf.size (fun _ s' => G buf s' ∧ start ≤ s'.ofs) (readPathLoop fuel s) := by
  intro fuel
  induction fuel with
  | zero => intro s _ _ _ _ h; exact absurd h (Nat.not_lt_zero _)
  | succ fuel ih =>
    intro s w hlt hst hn0 hf
    obtain ⟨c, hc⟩ := byte_at hlt
    have w1 := w.step hc
    obtain ⟨s', hb, g', hs'⟩ := back_ge w1 start (Nat.lt_succ_of_le hst) (fun e => hn0 (Nat.succ.inj e))
    unfold readPathLoop
    rw [w.read hc]
    simp only []
    by_cases hend : (c == NUL || c == SP || c == NL) = true
    · rw [if_pos hend, hb]
      exact ⟨g', hs'⟩
    · rw [if_neg hend]
      have hlt1 := w.step_lt hc (fun e => hend (by rw [e]; rfl))
      have hrec := ih _ w1 hlt1 (Nat.le_succ_of_le hst) (fun e => absurd (e ▸ hst) (Nat.not_succ_le_self _))
        (fuel_succ hlt hf (Nat.lt_succ_self _))
      by_cases hbs : (c == BSL) = true
      · obtain ⟨c2, hc2⟩ := byte_at hlt1
        rw [if_pos hbs, w1.peek hc2]
        simp only []
        by_cases hnl : (c2 == NL) = true
        · rw [if_pos hnl, hb]
          exact ⟨g', hs'⟩
        · rw [if_neg hnl]
          exact hrec
      · rw [if_neg hbs]
        exact hrec

theorem readPath_fine (buf : Array UInt8) (fuel : Nat) (s : Scanner) (g : G buf s) (hf : buf.size - s.ofs < fuel) :
    Ok1 buf.size (fun r s' => G buf s' ∧ s.ofs ≤ s'.ofs ∧ (r.isSome → s.ofs < s'.ofs)) (readPath fuel s) := by
  unfold readPath
  rcases (skipSpaces_fine buf fuel s g hf).perr_or_ok with ⟨m, o, e, ho⟩ | ⟨_, s1, e, g1, hle1⟩
  · rw [e]; exact ho
  rw [e]
  simp only []
  rcases (readPathLoop_fine buf s1.ofs fuel s1 g1.w g1.lt (Nat.le_refl _) (fun _ => g1.ncr)
    (fuel_mono hf hle1)).perr_or_ok with ⟨m, o, e, ho⟩ | ⟨_, s2, e, g2, hle2⟩
  · rw [e]; exact ho
  rw [e]
  simp only []
  by_cases he : (s2.ofs == s1.ofs) = true
  · rw [if_pos he]
    exact ⟨g2, Nat.le_trans hle1 hle2, fun h => absurd h Bool.false_ne_true⟩
  · have hlt : s1.ofs < s2.ofs := Nat.lt_of_le_of_ne hle2 fun e => he (e ▸ beq_self_eq_true _)
    rw [if_neg he, g2.w.slice hle2 (Nat.le_of_lt g2.lt)]
    exact ⟨g2, Nat.le_trans hle1 hle2, fun _ => Nat.lt_of_le_of_lt hle1 hlt⟩

theorem skipBlank_fine (buf : Array UInt8) : ∀ (fuel : Nat) (s : Scanner), G buf s → buf.size - s.ofs < fuel →
    Ok1 buf.size (fun _ s' => G buf s' ∧ s.ofs ≤ s'.ofs) (skipBlank fuel s) := by
  intro fuel
  induction fuel with
  | zero => intro s _ h; exact absurd h (Nat.not_lt_zero _)
  | succ fuel ih =>
    intro s g hf
    obtain ⟨c, hc⟩ := g.byte
    rw [skipBlank_succ g.w hc]
    by_cases hb : (c == SP || c == NL) = true
    · rw [if_pos hb]
      have g1 : G buf (s.step c) :=
        G.step g.w hc ⟨fun e => (by rw [e] at hb; cases hb), fun e => (by rw [e] at hb; cases hb)⟩
      exact ok1_later (ih _ g1 (fuel_succ g.lt hf (Nat.lt_succ_self _))) (Nat.le_succ _)
    · rw [if_neg hb]
      exact ⟨g, Nat.le_refl _⟩

theorem readDeps_fine (buf : Array UInt8) (pf : Nat) : ∀ (fuel : Nat) (s : Scanner) (acc : List Bytes), G buf s →
    buf.size - s.ofs < fuel → buf.size - s.ofs < pf →
    Ok1 buf.size (fun _ s' => G buf s' ∧ s.ofs ≤ s'.ofs) (readDeps fuel pf s acc) := by
  intro fuel
  induction fuel with
  | zero => intro s _ _ h; exact absurd h (Nat.not_lt_zero _)
  | succ fuel ih =>
    intro s acc g hf hpf
    unfold readDeps
    rcases (readPath_fine buf pf s g hpf).perr_or_ok with ⟨m, o, e, ho⟩ | ⟨r, s1, e, g1, hle, hsome⟩
    · rw [e]; exact ho
    rw [e]
    cases r with
    | none => exact ⟨g1, hle⟩
    | some p =>
      exact ok1_later (ih s1 (acc ++ [p]) g1 (fuel_succ g.lt hf (hsome rfl)) (fuel_mono hpf hle)) hle

theorem parseLoop_fine (buf : Array UInt8) (pf : Nat) (hpf : buf.size < pf) : ∀ (fuel : Nat) (s : Scanner)
    (acc : Entries), G buf s → buf.size - s.ofs < fuel →
    Ok1 buf.size (fun _ s' => G buf s') (parseLoop fuel pf s acc) := by
  intro fuel
  induction fuel with
  | zero => intro s _ _ h; exact absurd h (Nat.not_lt_zero _)
  | succ fuel ih =>
    intro s acc g hf
    unfold parseLoop
    rcases (skipBlank_fine buf pf s g (fuel_lt hpf _)).perr_or_ok with ⟨m, o, e, ho⟩ | ⟨_, s1, e, g1, hle1⟩
    · rw [e]; exact ho
    rw [e]
    simp only []
    rcases (readPath_fine buf pf s1 g1 (fuel_lt hpf _)).perr_or_ok with ⟨m, o, e, ho⟩ | ⟨r, s2, e, g2, hle2, hsome⟩
    · rw [e]; exact ho
    rw [e]
    cases r with
    | none => exact g2
    | some target =>
      simp only []
      have hlt2 : s.ofs < s2.ofs := Nat.lt_of_le_of_lt hle1 (hsome rfl)
      obtain ⟨s3, hss, g3, hle3, -⟩ := scanner_skipSpaces_ok buf pf s2 g2 (fuel_lt hpf _)
      rw [hss]
      simp only []
      -- the continuation: prerequisites, then the next entry
      have cont : ∀ (t : Bytes) (s4 : Scanner), G buf s4 → s3.ofs ≤ s4.ofs →
          Ok1 buf.size (fun _ s' => G buf s')
            (match readDeps pf pf s4 [] with
             | .ok deps s5 => parseLoop fuel pf s5 (addEntry acc t deps)
             | .perr m o => .perr m o
             | .bad r => .bad r) := by
        intro t s4 g4 hle4
        rcases (readDeps_fine buf pf pf s4 [] g4 (fuel_lt hpf _) (fuel_lt hpf _)).perr_or_ok with
          ⟨m, o, e, ho⟩ | ⟨deps, s5, e, g5, hle5⟩
        · rw [e]; exact ho
        rw [e]
        exact ih s5 _ g5 (fuel_succ g.lt hf
          (Nat.lt_of_lt_of_le hlt2 (Nat.le_trans hle3 (Nat.le_trans hle4 hle5))))
      cases stripColon target with
      | some t => exact cont t s3 g3 (Nat.le_refl _)
      | none =>
        simp only []
        rcases (expect_ok1 g3 COLON).perr_or_ok with ⟨m, o, e, ho⟩ | ⟨_, _, e, rfl, hc⟩
        · rw [e]; exact ho
        rw [e]
        exact cont target _ (G.step g3.w hc colon_inner) (Nat.le_succ _)

/-- **`depfile::parse` is total**: for every byte string it returns the entries or a parse error
    with an offset inside the buffer (so `format_parse_error` is applied where `C12.format_total`
    covers it); it never reads outside the NUL-terminated buffer, never steps back before the
    start, never wraps the line counter, and the loops' fuel (`size + 1`) is always enough. -/
theorem parse_total (text : Bytes) : match parse text with
    | .ok _ _ => True
    | .perr _ o => o ≤ text.length + 1
    | .bad _ => False := by
  have hsz : (text ++ [NUL]).toArray.size = text.length + 1 := by
    rw [List.size_toArray, List.length_append]; rfl
  rw [parse, new_nul]
  simp only []
  rcases (parseLoop_fine (text ++ [NUL]).toArray ((text ++ [NUL]).toArray.size + 1) (Nat.lt_succ_self _)
    ((text ++ [NUL]).toArray.size + 1) _ [] (G.start text) (Nat.lt_succ_self _)).perr_or_ok with
    ⟨m, o, e, ho⟩ | ⟨es, s1, e, g1⟩
  · rw [e, ← hsz]; exact ho
  rw [e]
  simp only []
  rcases (expect_ok1 g1 NUL).perr_or_ok with ⟨m, o, e, ho⟩ | ⟨_, _, e, -⟩
  · rw [e, ← hsz]; exact ho
  · rw [e]; trivial

end N2V.Depfile
