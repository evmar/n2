/-
  The converse of `checkDirty_upToDate`: a step that `check_build_dirty` finds clean (and that is
  therefore skipped) is up to date - every file it names exists and the signature attached at
  start-up is the manifest of the tree as it is.  (C02's "n2 never skips a step whose dirtying
  inputs, discovered dependencies, command line, response-file content or outputs were changed or
  removed since that step last completed successfully".)
-/
import N2V.Lemmas.WorkClean
namespace N2V.Work
open N2V N2V.Load

theorem clean_means_upToDate (e : Env) (hc : Coh e) (b : Nat) (bm : BuildM) (hb : buildOf e.g b = some bm)
    (hnp : bm.cmdline.isNone = false) (h : (checkDirty e b).1 = some false) : UpToDate e b bm := by
  obtain ⟨l, hl, hpres, hh⟩ := checkDirty_clean hb hnp h
  rw [hl] at hpres hh
  have g := statMany_grew hc (l ++ bm.outs)
  -- the cache is truthful, so every file it says exists does, and its entry is fresh
  have hfresh : ∀ f ∈ bm.dirtying ++ discOf e b ++ bm.outs,
      (mtimeOf e f).isSome = true ∧ assocGet (statMany e (l ++ bm.outs)).cache f = some (mtimeOf e f) := by
    intro f hf
    obtain ⟨t, ht⟩ := hpres f hf
    have := g.coh f _ ht
    rw [mtimeOf_statMany] at this
    rw [ht, ← this]
    exact ⟨rfl, rfl⟩
  refine ⟨fun f hf => (hfresh f hf).1, ?_⟩
  rw [hh, ← manifestFs_same g.toSameButCache, manifestOf_fresh _ bm b (fun f hf => ?_)]
  rw [discOf_same g.toSameButCache] at hf
  rw [mtimeOf_statMany]
  exact (hfresh f hf).2

/-- **Up to date is a matter of the step's own files only.**  Whatever happens elsewhere - other
    commands running, rewriting their own outputs, leaving outputs untouched (restat-style) - a step
    stays up to date as long as the modification times of the files IT names, its remembered
    dependency list and its attached signature are unchanged. -/
theorem upToDate_frame (e e' : Env) (b : Nat) (bm : BuildM) (hg : e'.g = e.g) (hd : discOf e' b = discOf e b)
    (hh : assocGet e'.hashes b = assocGet e.hashes b)
    (hm : ∀ f ∈ bm.dirtying ++ discOf e b ++ bm.outs, mtimeOf e' f = mtimeOf e f) (u : UpToDate e b bm) :
    UpToDate e' b bm := by
  refine ⟨fun f hf => ?_, ?_⟩
  · rw [hd] at hf
    rw [hm f hf]; exact u.present f hf
  · rw [hh, u.recorded, manifestFs_congr e e' bm b hd (fun _ _ => by rw [hg]) hm]

end N2V.Work
