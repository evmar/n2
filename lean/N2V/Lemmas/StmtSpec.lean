/-
  What the statement parsers compute, at byte level: lists of paths with the parser's spacing
  (`skip_spaces`: spaces and `$`-newline), the sections of a `build` line, indented bindings.
-/
import N2V.Lemmas.EvalSpec
namespace N2V.Parse
open N2V N2V.Scanner N2V.Eval
open N2V.Depfile (G At)

def HeadIs (P : UInt8 → Prop) (x : Bytes) : Prop := ∃ c r, x = c :: r ∧ P c

/-- Spacing the parser skips between tokens: spaces and `$`-newline continuations. -/
inductive PGap where
  | sp | cont
  deriving DecidableEq, Repr

def pgapBytes : List PGap → Bytes
  | [] => []
  | .sp :: g => SP :: pgapBytes g
  | .cont :: g => DOLLAR :: NL :: pgapBytes g

/-- The byte after a gap: not a space, and if it is a `$` it does not start a continuation. -/
def GapEnd (x : Bytes) : Prop :=
  match x with
  | [] => False
  | c :: r => c ≠ SP ∧ (c = DOLLAR → ∃ d r', r = d :: r' ∧ d ≠ NL)

theorem gapEnd_of {c : UInt8} {r : Bytes} (h1 : c ≠ SP) (h2 : c ≠ DOLLAR) : GapEnd (c :: r) :=
  ⟨h1, fun h => absurd h h2⟩

theorem gapEnd_ident (name : Bytes) (hne : name ≠ []) (hid : ∀ c ∈ name, isIdentChar c true = true) (x : Bytes) :
    GapEnd (name ++ x) := by
  obtain ⟨c, r, rfl⟩ := List.exists_cons_of_ne_nil hne
  have hc := hid c List.mem_cons_self
  exact gapEnd_of (identChar_ne hc (by decide)) (identChar_ne hc (by decide))

theorem skipSpacesLoop_spec (buf : Array UInt8) (x : Bytes) (hx : GapEnd x) (gs : List PGap) :
    ∀ (fuel : Nat) (s : Scanner), At buf s (pgapBytes gs ++ x) → (pgapBytes gs ++ x).length ≤ fuel →
    ∃ s', skipSpacesLoop fuel s = .ok () s' ∧ At buf s' x := by
  induction gs with
  | nil =>
    intro fuel s hs hf
    obtain ⟨c, r, rfl⟩ : ∃ c r, x = c :: r := by
      cases x with
      | nil => exact hx.elim
      | cons c r => exact ⟨c, r, rfl⟩
    simp only [pgapBytes, List.nil_append] at hs hf
    obtain ⟨fuel, rfl, _⟩ := fuel_cons hf
    -- the byte is put back
    refine ⟨s, ?_, hs⟩
    unfold skipSpacesLoop
    rw [bind_eq (pRead_at hs), if_neg (byte_not_beq hx.1)]
    by_cases hd : c = DOLLAR
    · subst hd
      obtain ⟨d, r', rfl, hdn⟩ := hx.2 rfl
      rw [if_pos (byte_beq_self _), bind_eq (pPeek_at (hs.step (by decide))), if_pos (byte_bne hdn)]
      exact pBack_at hs
    · rw [if_neg (byte_not_beq hd)]
      exact pBack_at hs
  | cons gi gs ih =>
    intro fuel s hs hf
    cases gi with
    | sp =>
      simp only [pgapBytes, List.cons_append] at hs hf
      obtain ⟨fuel, rfl, hf'⟩ := fuel_cons hf
      obtain ⟨s', h', hs'⟩ := ih fuel _ (hs.step sp_inner) hf'
      refine ⟨s', ?_, hs'⟩
      unfold skipSpacesLoop
      rw [bind_eq (pRead_at hs), if_pos (byte_beq_self _)]
      exact h'
    | cont =>
      simp only [pgapBytes, List.cons_append] at hs hf
      obtain ⟨fuel, rfl, hf'⟩ := fuel_cons hf
      have hs1 := hs.step (c := DOLLAR) (by decide)
      obtain ⟨s', h', hs'⟩ := ih fuel _ (hs1.step nl_inner) (Nat.le_of_succ_le hf')
      refine ⟨s', ?_, hs'⟩
      unfold skipSpacesLoop
      rw [bind_eq (pRead_at hs), if_neg (by decide), if_pos (by decide), bind_eq (pPeek_at hs1), if_neg (by decide),
        bind_eq (pRead_at hs1)]
      exact h'

theorem skipSpaces_reads (buf : Array UInt8) (gs : List PGap) (x : Bytes) (hx : GapEnd x) :
    Reads buf skipSpaces () (pgapBytes gs ++ x) x :=
  Reads.size fun hf s hs => skipSpacesLoop_spec buf x hx gs _ s hs hf

/-- A path as written: segments and a last literal. -/
abbrev PathText := List Seg × Bytes

def pathBytes (p : PathText) : Bytes := segsBytes p.1 ++ p.2
def pathValue (p : PathText) : EvalStr := textParts p.1 p.2

def pathsBytes (ps : List (PathText × List PGap)) : Bytes :=
  ps.flatMap (fun pg => pathBytes pg.1 ++ pgapBytes pg.2)

/-- Every path is well-formed text that ends where a space, `:`, `|` or newline follows, and the
    gap after it ends at the next path or at the end of the list. -/
def PathsWF : List (PathText × List PGap) → Bytes → Prop
  | [], _ => True
  | pg :: rest, after =>
    (∃ t r, pgapBytes pg.2 ++ (pathsBytes rest ++ after) = t :: r ∧ stops true t) ∧
    SegsWF true pg.1.1 (pg.1.2 ++ (pgapBytes pg.2 ++ (pathsBytes rest ++ after))) ∧
    (∀ c ∈ pg.1.2, plain true c) ∧ pathValue pg.1 ≠ [] ∧
    GapEnd (pathsBytes rest ++ after) ∧ PathsWF rest after

theorem pathBytes_pos (p : PathText) (hne : pathValue p ≠ []) : 0 < (pathBytes p).length := by
  obtain ⟨segs, last⟩ := p
  cases segs with
  | nil =>
    cases last with
    | nil => exfalso; apply hne; simp [pathValue, textParts]
    | cons c l => simp [pathBytes, segsBytes]
  | cons sg segs => simp [pathBytes, segsBytes, segBytes]; omega

theorem path_head (p : PathText) (y : Bytes) (hne : pathValue p ≠ []) (hwf : SegsWF true p.1 (p.2 ++ y))
    (hl : ∀ c ∈ p.2, plain true c) :
    HeadIs (fun c => c ≠ COLON ∧ c ≠ PIPE ∧ c ≠ NL) (pathBytes p ++ y) := by
  obtain ⟨segs, last⟩ := p
  have plain_ok : ∀ c, plain true c → c ≠ COLON ∧ c ≠ PIPE ∧ c ≠ NL :=
    fun c h => ⟨(h.2.2.2.2 rfl).2.1, (h.2.2.2.2 rfl).2.2, h.2.1⟩
  cases segs with
  | nil =>
    cases last with
    | nil => exfalso; apply hne; simp [pathValue, textParts]
    | cons c l => exact ⟨c, l ++ y, by simp [pathBytes, segsBytes], plain_ok c (hl c (by simp))⟩
  | cons sg segs =>
    obtain ⟨l, e⟩ := sg
    cases l with
    | nil =>
      refine ⟨DOLLAR, escBytes e ++ (segsBytes segs ++ (last ++ y)), ?_, by decide, by decide, by decide⟩
      simp [pathBytes, segsBytes, segBytes, List.append_assoc]
    | cons c l' =>
      refine ⟨c, l' ++ DOLLAR :: (escBytes e ++ (segsBytes segs ++ (last ++ y))), ?_, plain_ok c (hwf.1 c (by simp))⟩
      simp [pathBytes, segsBytes, segBytes, List.append_assoc]

theorem pathsBytes_cons (pg : PathText × List PGap) (rest : List (PathText × List PGap)) :
    pathsBytes (pg :: rest) = pathBytes pg.1 ++ pgapBytes pg.2 ++ pathsBytes rest := by
  simp [pathsBytes]

def PathsEnd (c : UInt8) : Prop := c = COLON ∨ c = PIPE ∨ c = NL

theorem pathsLoop_reads (buf : Array UInt8) (after : Bytes) (hafter : HeadIs PathsEnd after)
    (ps : List (PathText × List PGap)) : PathsWF ps after → ∀ (fuel : Nat) (acc : List EvalStr),
    (pathsBytes ps ++ after).length ≤ fuel →
    Reads buf (pathsLoop fuel acc) (acc ++ ps.map (fun pg => pathValue pg.1)) (pathsBytes ps ++ after) after := by
  induction ps with
  | nil =>
    intro _ fuel acc hf
    obtain ⟨e0, r0, rfl, he0⟩ := hafter
    obtain ⟨fuel, rfl, _⟩ := fuel_cons hf
    have hstop : (e0 == COLON || e0 == PIPE || e0 == NL) = true := by
      rcases he0 with h | h | h <;> subst h <;> decide
    unfold pathsLoop
    rw [List.map_nil, List.append_nil]
    exact Reads.peek rfl (Reads.ite_pos hstop (Reads.pure _ _))
  | cons pg rest ih =>
    intro hwf fuel acc hf
    obtain ⟨⟨t, r, hfol, hst⟩, hsw, hlast, hne, hge, hwf'⟩ := hwf
    have hbytes : pathsBytes (pg :: rest) ++ after
        = pathBytes pg.1 ++ (pgapBytes pg.2 ++ (pathsBytes rest ++ after)) := by
      rw [pathsBytes_cons, List.append_assoc, List.append_assoc]
    obtain ⟨c, x, hcx, hc1, hc2, hc3⟩ := path_head pg.1 _ hne hsw hlast
    rw [hbytes] at hf ⊢
    obtain ⟨fuel, rfl, hf'⟩ := fuel_drop hf (pathBytes_pos pg.1 hne)
    have hstop : ¬ (c == COLON || c == PIPE || c == NL) = true := by
      rw [byte_beq_false hc1, byte_beq_false hc2, byte_beq_false hc3]; decide
    have hread := readEval_reads buf true pg.1.1 pg.1.2 t r (hfol ▸ hsw) hlast hst hne
    rw [← hfol] at hread
    have hrec := ih hwf' fuel (acc ++ [pathValue pg.1]) (fuel_append hf')
    rw [List.append_assoc, List.singleton_append] at hrec
    rw [← pathBytes] at hread
    unfold pathsLoop
    exact Reads.peek hcx (Reads.ite_neg hstop (hread.bind ((skipSpaces_reads buf pg.2 _ hge).bind hrec)))

theorem readPathsTo_reads (buf : Array UInt8) (after : Bytes) (hafter : HeadIs PathsEnd after) (lead : List PGap)
    (ps : List (PathText × List PGap)) (hwf : PathsWF ps after) (hge : GapEnd (pathsBytes ps ++ after))
    (acc : List EvalStr) :
    Reads buf (readPathsTo acc) (acc ++ ps.map (fun pg => pathValue pg.1)) (pgapBytes lead ++ (pathsBytes ps ++ after))
      after :=
  (skipSpaces_reads buf lead _ hge).bind (Reads.size fun hf => pathsLoop_reads buf after hafter ps hwf _ acc hf)

/-- A section as written after its introducer (`|`, `||`, `|@`): a gap, then paths. -/
abbrev Section := List PGap × List (PathText × List PGap)

def sectionBytes (sec : Section) : Bytes := pgapBytes sec.1 ++ pathsBytes sec.2
def sectionValues (sec : Section) : List EvalStr := sec.2.map (fun pg => pathValue pg.1)

def SectionWF (sec : Section) (after : Bytes) : Prop :=
  PathsWF sec.2 after ∧ GapEnd (pathsBytes sec.2 ++ after)

theorem section_reads (buf : Array UInt8) (sec : Section) (after : Bytes) (hafter : HeadIs PathsEnd after)
    (hwf : SectionWF sec after) (acc : List EvalStr) :
    Reads buf (readPathsTo acc) (acc ++ sectionValues sec) (sectionBytes sec ++ after) after := by
  have := readPathsTo_reads buf after hafter sec.1 sec.2 hwf.1 hwf.2 acc
  rwa [← List.append_assoc] at this

/-- The optional sections share this shape: when a `|` follows it is consumed and the rest runs. -/
theorem optPipe_some {buf : Array UInt8} {rest : PM (List EvalStr)} {v : List EvalStr} {x y : Bytes} (acc : List EvalStr)
    (h : Reads buf rest v x y) :
    Reads buf (do let p ← pPeek; if p == PIPE then do pNext; rest else pure acc) v (PIPE :: x) y :=
  Reads.peek rfl (Reads.ifeq_pos ((Reads.next PIPE x (by decide)).bind h))

theorem optPipe_none {buf : Array UInt8} {c : UInt8} (hc : c ≠ PIPE) (rest : PM (List EvalStr)) (acc : List EvalStr)
    (r : Bytes) :
    Reads buf (do let p ← pPeek; if p == PIPE then do pNext; rest else pure acc) acc (c :: r) (c :: r) :=
  Reads.peek rfl (Reads.ifeq_neg hc (Reads.pure _ _))

/-- A `|` that belongs to a later section (`||`, `|@`) is taken and put back. -/
theorem optPipe_skip {buf : Array UInt8} (cond : UInt8 → Bool) (q : UInt8) (hq : cond q = true) (x : Bytes)
    (acc : List EvalStr) (rest : UInt8 → PM (List EvalStr)) :
    Reads buf (do
        let p ← pPeek
        if p == PIPE then do
          pNext
          let q ← pPeek
          if cond q then do pBack; pure acc else rest q
        else pure acc) acc (PIPE :: q :: x) (PIPE :: q :: x) := by
  intro s hs
  refine ⟨s, ?_, hs⟩
  rw [bind_eq (pPeek_at hs), if_pos (byte_beq_self _), bind_eq (pNext_at hs), bind_eq (pPeek_at (hs.step (by decide))),
    if_pos hq, bind_eq (pBack_at hs)]
  rfl

/-- The right-hand side of a binding: `= value` up to the end of the line. -/
structure ValueText where
  g1 : List PGap                 -- before `=`
  g2 : List PGap                 -- after `=`
  value : Option PathText        -- `none`: nothing after the `=`

def valueBytes (v : ValueText) : Bytes :=
  pgapBytes v.g1 ++ EQ :: (pgapBytes v.g2 ++ (match v.value with | none => [] | some t => pathBytes t) ++ [NL])

def valueOf (v : ValueText) : EvalStr := match v.value with | none => [] | some t => pathValue t

def ValueWF (v : ValueText) (r : Bytes) : Prop :=
  match v.value with
  | none => True
  | some t => SegsWF false t.1 (t.2 ++ NL :: r) ∧ (∀ c ∈ t.2, plain false c) ∧ pathValue t ≠ [] ∧
      GapEnd (pathBytes t ++ NL :: r) ∧ (∃ c x, pathBytes t = c :: x ∧ c ≠ NL)

theorem gapEnd_eq (x : Bytes) : GapEnd (EQ :: x) := gapEnd_of (by decide) (by decide)
theorem gapEnd_nl (x : Bytes) : GapEnd (NL :: x) := gapEnd_of (by decide) (by decide)

theorem valueBytes_split (v : ValueText) :
    valueBytes v = pgapBytes v.g1 ++ valueBytes { v with g1 := [] } := by
  simp [valueBytes, pgapBytes]

theorem readVardef_reads (buf : Array UInt8) (v : ValueText) (r : Bytes) (hwf : ValueWF v r) :
    Reads buf readVardef (valueOf v) (valueBytes v ++ r) r := by
  unfold readVardef valueBytes valueOf
  simp only [List.append_assoc, List.cons_append, List.nil_append]
  refine (skipSpaces_reads buf v.g1 _ (gapEnd_eq _)).bind ((Reads.expect EQ _ (by decide)).bind ?_)
  unfold ValueWF at hwf
  cases hv : v.value with
  | none =>
    exact (skipSpaces_reads buf v.g2 _ (gapEnd_nl _)).bind
      (Reads.peek rfl (Reads.ifeq_pos ((Reads.expect NL _ (by decide)).bind (Reads.pure _ _))))
  | some t =>
    rw [hv] at hwf
    obtain ⟨hsw, hl, hne, hge, c, x, hcx, hcn⟩ := hwf
    have hread := readEval_reads buf false t.1 t.2 NL r hsw hl (Or.inl rfl) hne
    rw [← pathBytes] at hread
    exact (skipSpaces_reads buf v.g2 _ hge).bind (Reads.peek (r := x ++ NL :: r) (by rw [hcx]; rfl)
      (Reads.ifeq_neg hcn (hread.bind ((Reads.expect NL _ (by decide)).bind (Reads.pure _ _)))))

/-- One indented binding line. -/
structure BindingText where
  indent : Nat                   -- `indent + 1` leading spaces
  name : Bytes
  rhs : ValueText

def bindingBytes (b : BindingText) : Bytes :=
  List.replicate (b.indent + 1) SP ++ b.name ++ valueBytes b.rhs

def bindingsBytes (bs : List BindingText) : Bytes := bs.flatMap bindingBytes

theorem valueBytes_head (v : ValueText) : HeadIs (fun c => isIdentChar c true = false) (valueBytes v) := by
  unfold valueBytes
  cases hg : v.g1 with
  | nil => exact ⟨_, _, rfl, by decide⟩
  | cons gi gs => cases gi <;> exact ⟨_, _, rfl, by decide⟩

def BindingsWF (valid : Bytes → Bool) : List BindingText → Bytes → Prop
  | [], _ => True
  | b :: bs, after =>
    b.name ≠ [] ∧ (∀ c ∈ b.name, isIdentChar c true = true) ∧ valid b.name = true ∧
    ValueWF b.rhs (bindingsBytes bs ++ after) ∧ BindingsWF valid bs after

abbrev storeAll (bs : List BindingText) (vars : EvalMap) : EvalMap :=
  bs.foldl (fun m b => Eval.insert m b.name (valueOf b.rhs)) vars

theorem scopedVarsLoop_reads (buf : Array UInt8) (valid : Bytes → Bool) (after : Bytes)
    (hafter : HeadIs (fun c => c ≠ SP) after) (bs : List BindingText) : BindingsWF valid bs after →
    ∀ (fuel : Nat) (vars : EvalMap), (bindingsBytes bs ++ after).length ≤ fuel →
    Reads buf (scopedVarsLoop valid fuel vars) (storeAll bs vars) (bindingsBytes bs ++ after) after := by
  induction bs with
  | nil =>
    intro _ fuel vars hf
    obtain ⟨c0, r0, rfl, hc0⟩ := hafter
    obtain ⟨fuel, rfl, _⟩ := fuel_cons hf
    unfold scopedVarsLoop
    exact Reads.peek rfl (Reads.ite_pos (byte_bne hc0) (Reads.pure _ _))
  | cons b bs ih =>
    intro hwf fuel vars hf
    obtain ⟨hne, hid, hval, hvw, hwf'⟩ := hwf
    obtain ⟨c, x, hcx, hcn⟩ := valueBytes_head b.rhs
    obtain ⟨n0, n', hn0⟩ := List.exists_cons_of_ne_nil hne
    have hn0sp : n0 ≠ SP := identChar_ne (hid n0 (by rw [hn0]; exact List.mem_cons_self)) (by decide)
    have hbytes : bindingsBytes (b :: bs) ++ after = SP :: (List.replicate b.indent SP ++ n0 :: (n' ++ (pgapBytes b.rhs.g1 ++
        (valueBytes { b.rhs with g1 := [] } ++ (bindingsBytes bs ++ after))))) := by
      rw [bindingsBytes, List.flatMap_cons, bindingBytes, hn0, valueBytes_split b.rhs, List.replicate_succ]
      simp [bindingsBytes, List.append_assoc]
    rw [hbytes] at hf ⊢
    obtain ⟨fuel, rfl, hf'⟩ := fuel_cons hf
    have hf'' : (bindingsBytes bs ++ after).length ≤ fuel := by
      simp only [List.length_append, List.length_cons] at hf' ⊢; omega
    have hident := readIdentGen_reads buf true "failed to scan ident" b.name hne hid c
      (x ++ (bindingsBytes bs ++ after)) hcn
    have hsplit : c :: (x ++ (bindingsBytes bs ++ after)) = pgapBytes b.rhs.g1 ++
        (valueBytes { b.rhs with g1 := [] } ++ (bindingsBytes bs ++ after)) := by
      rw [← List.cons_append, ← hcx, valueBytes_split b.rhs, List.append_assoc]
    have hname : ∀ y, b.name ++ y = n0 :: (n' ++ y) := fun y => by rw [hn0]; rfl
    rw [hsplit, hname] at hident
    have hge : GapEnd (valueBytes { b.rhs with g1 := [] } ++ (bindingsBytes bs ++ after)) := gapEnd_eq _
    unfold scopedVarsLoop
    refine Reads.peek rfl (Reads.ite_neg (by decide) ?_)
    refine (pScannerSkipSpaces_reads buf (b.indent + 1) n0 _ hn0sp).bind (hident.bind ?_)
    rw [hval]
    exact Reads.ite_neg (by decide) ((skipSpaces_reads buf b.rhs.g1 _ hge).bind
      ((readVardef_reads buf { b.rhs with g1 := [] } _ hvw).bind (ih hwf' fuel _ hf'')))

theorem readScopedVars_reads (buf : Array UInt8) (valid : Bytes → Bool) (after : Bytes)
    (hafter : HeadIs (fun c => c ≠ SP) after) (bs : List BindingText) (hwf : BindingsWF valid bs after) :
    Reads buf (readScopedVars valid) (storeAll bs []) (bindingsBytes bs ++ after) after :=
  Reads.size fun hf => scopedVarsLoop_reads buf valid after hafter bs hwf _ [] hf

def optSec (intro : Bytes) : Option Section → Bytes
  | none => []
  | some sec => intro ++ sectionBytes sec

def optVals : Option Section → List EvalStr
  | none => []
  | some sec => sectionValues sec

/-- What follows the implicit-input position when that section is absent: the end of the line, or
    `||` / `|@`. -/
def BarOrNl (x : Bytes) : Prop :=
  (∃ r, x = NL :: r) ∨ (∃ q r, x = PIPE :: q :: r ∧ (q = PIPE ∨ q = AT))

theorem BarOrNl.head {x : Bytes} (h : BarOrNl x) : HeadIs PathsEnd x := by
  rcases h with ⟨r, rfl⟩ | ⟨q, r, rfl, _⟩
  · exact ⟨_, _, rfl, Or.inr (Or.inr rfl)⟩
  · exact ⟨_, _, rfl, Or.inr (Or.inl rfl)⟩

theorem optImplicitOuts_spec (buf : Array UInt8) (io : Option Section) (r0 : Bytes)
    (hwf : ∀ sec, io = some sec → SectionWF sec (COLON :: r0)) (outs : List EvalStr) :
    Reads buf (optImplicitOuts outs) (outs ++ optVals io) (optSec [PIPE] io ++ COLON :: r0) (COLON :: r0) := by
  cases io with
  | none =>
    rw [optVals, List.append_nil, optSec, List.nil_append]
    exact optPipe_none (by decide) _ outs r0
  | some sec =>
    simp only [optVals, optSec, List.cons_append, List.nil_append]
    exact optPipe_some outs (section_reads buf sec _ ⟨_, _, rfl, Or.inl rfl⟩ (hwf sec rfl) outs)

theorem optImplicit_spec (buf : Array UInt8) (ii : Option Section) (tail : Bytes) (htail : BarOrNl tail)
    (hwf : ∀ sec, ii = some sec → SectionWF sec tail ∧ ∃ q x, sectionBytes sec ++ tail = q :: x ∧ q ≠ PIPE ∧ q ≠ AT)
    (ins : List EvalStr) :
    Reads buf (optImplicit ins) (ins ++ optVals ii) (optSec [PIPE] ii ++ tail) tail := by
  cases ii with
  | none =>
    rw [optVals, List.append_nil, optSec, List.nil_append]
    rcases htail with ⟨r, rfl⟩ | ⟨q, r, rfl, hq⟩
    · exact optPipe_none (by decide) _ ins r
    · exact optPipe_skip (fun q => q == PIPE || q == AT) q (by rcases hq with h | h <;> subst h <;> decide) r ins
        (fun _ => readPathsTo ins)
  | some sec =>
    obtain ⟨hsw, q, x, hq, hq1, hq2⟩ := hwf sec rfl
    have hcond : ¬ (q == PIPE || q == AT) = true := by
      rw [byte_beq_false hq1, byte_beq_false hq2]; decide
    simp only [optVals, optSec, List.cons_append, List.nil_append]
    exact optPipe_some ins (Reads.peek hq (Reads.ite_neg hcond (section_reads buf sec tail htail.head hsw ins)))

/-- What follows the order-only position when that section is absent: the end of the line or `|@`. -/
def AtOrNl (x : Bytes) : Prop := (∃ r, x = NL :: r) ∨ (∃ r, x = PIPE :: AT :: r)

theorem AtOrNl.head {x : Bytes} (h : AtOrNl x) : HeadIs PathsEnd x := by
  rcases h with ⟨r, rfl⟩ | ⟨r, rfl⟩
  · exact ⟨_, _, rfl, Or.inr (Or.inr rfl)⟩
  · exact ⟨_, _, rfl, Or.inr (Or.inl rfl)⟩

theorem optOrderOnly_spec (buf : Array UInt8) (oi : Option Section) (tail : Bytes) (htail : AtOrNl tail)
    (hwf : ∀ sec, oi = some sec → SectionWF sec tail) (ins : List EvalStr) :
    Reads buf (optOrderOnly ins) (ins ++ optVals oi) (optSec [PIPE, PIPE] oi ++ tail) tail := by
  cases oi with
  | none =>
    rw [optVals, List.append_nil, optSec, List.nil_append]
    rcases htail with ⟨r, rfl⟩ | ⟨r, rfl⟩
    · exact optPipe_none (by decide) _ ins r
    · exact optPipe_skip (fun q => q == AT) AT (by decide) r ins
        (fun _ => do pExpect PIPE; readPathsTo ins)
  | some sec =>
    simp only [optVals, optSec, List.cons_append, List.nil_append]
    exact optPipe_some ins (Reads.peek rfl (Reads.ifeq_neg (a := PIPE) (b := AT) (by decide)
      ((Reads.expect PIPE _ (by decide)).bind (section_reads buf sec tail htail.head (hwf sec rfl) ins))))

theorem optValidation_spec (buf : Array UInt8) (vi : Option Section) (r0 : Bytes)
    (hwf : ∀ sec, vi = some sec → SectionWF sec (NL :: r0)) (ins : List EvalStr) :
    Reads buf (optValidation ins) (ins ++ optVals vi) (optSec [PIPE, AT] vi ++ NL :: r0) (NL :: r0) := by
  cases vi with
  | none =>
    rw [optVals, List.append_nil, optSec, List.nil_append]
    exact optPipe_none (by decide) _ ins r0
  | some sec =>
    simp only [optVals, optSec, List.cons_append, List.nil_append]
    exact optPipe_some ins ((Reads.expect AT _ (by decide)).bind
      (section_reads buf sec _ ⟨_, _, rfl, Or.inr (Or.inr rfl)⟩ (hwf sec rfl) ins))

/-- A `build` statement as written (after the keyword). -/
structure BuildText where
  eouts : Section
  iouts : Option Section
  colonGap : List PGap
  rule : Bytes
  eins : Section
  iins : Option Section
  oins : Option Section
  vins : Option Section
  bindings : List BindingText

def BuildText.tail5 (b : BuildText) (after : Bytes) : Bytes := NL :: (bindingsBytes b.bindings ++ after)
def BuildText.tail4 (b : BuildText) (after : Bytes) : Bytes := optSec [PIPE, AT] b.vins ++ b.tail5 after
def BuildText.tail3 (b : BuildText) (after : Bytes) : Bytes := optSec [PIPE, PIPE] b.oins ++ b.tail4 after
def BuildText.tail2 (b : BuildText) (after : Bytes) : Bytes := optSec [PIPE] b.iins ++ b.tail3 after
def BuildText.tail1 (b : BuildText) (after : Bytes) : Bytes := b.rule ++ (sectionBytes b.eins ++ b.tail2 after)
def BuildText.tail0 (b : BuildText) (after : Bytes) : Bytes := COLON :: (pgapBytes b.colonGap ++ b.tail1 after)
def BuildText.bytes (b : BuildText) (after : Bytes) : Bytes :=
  sectionBytes b.eouts ++ (optSec [PIPE] b.iouts ++ b.tail0 after)

structure BuildWF (b : BuildText) (after : Bytes) : Prop where
  eouts : SectionWF b.eouts (optSec [PIPE] b.iouts ++ b.tail0 after)
  iouts : ∀ sec, b.iouts = some sec → SectionWF sec (b.tail0 after)
  ruleNe : b.rule ≠ []
  ruleId : ∀ c ∈ b.rule, isIdentChar c true = true
  ruleEnd : ∃ c x, sectionBytes b.eins ++ b.tail2 after = c :: x ∧ isIdentChar c true = false
  eins : SectionWF b.eins (b.tail2 after)
  iins : ∀ sec, b.iins = some sec → SectionWF sec (b.tail3 after) ∧
    ∃ q x, sectionBytes sec ++ b.tail3 after = q :: x ∧ q ≠ PIPE ∧ q ≠ AT
  oins : ∀ sec, b.oins = some sec → SectionWF sec (b.tail4 after)
  vins : ∀ sec, b.vins = some sec → SectionWF sec (b.tail5 after)
  binds : BindingsWF (fun _ => true) b.bindings after
  afterOk : ∃ c0 r0, after = c0 :: r0 ∧ c0 ≠ SP

theorem tail4_atOrNl (b : BuildText) (after : Bytes) : AtOrNl (b.tail4 after) := by
  unfold BuildText.tail4 BuildText.tail5
  cases b.vins with
  | none => exact Or.inl ⟨_, rfl⟩
  | some sec => exact Or.inr ⟨_, by simp only [optSec, List.cons_append, List.nil_append]; rfl⟩

theorem tail3_barOrNl (b : BuildText) (after : Bytes) : BarOrNl (b.tail3 after) := by
  unfold BuildText.tail3
  cases ho : b.oins with
  | none =>
    simp only [optSec, List.nil_append]
    rcases tail4_atOrNl b after with ⟨r, h⟩ | ⟨r, h⟩
    · exact Or.inl ⟨r, h⟩
    · exact Or.inr ⟨AT, r, h, Or.inr rfl⟩
  | some sec => exact Or.inr ⟨PIPE, _, by simp only [optSec, List.cons_append, List.nil_append]; rfl, Or.inl rfl⟩

/-- The sections of the statement, as `read_build` records them. -/
def BuildText.outsV (b : BuildText) : List EvalStr := sectionValues b.eouts ++ optVals b.iouts
def BuildText.insV (b : BuildText) : List EvalStr :=
  sectionValues b.eins ++ optVals b.iins ++ optVals b.oins ++ optVals b.vins
def BuildText.varsV (b : BuildText) : EvalMap :=
  b.bindings.foldl (fun m bd => Eval.insert m bd.name (valueOf bd.rhs)) []

theorem optSec_pipe_head (io : Option Section) {x : Bytes} (hx : HeadIs PathsEnd x) :
    HeadIs PathsEnd (optSec [PIPE] io ++ x) := by
  cases io with
  | none => exact hx
  | some sec => exact ⟨PIPE, _, by simp only [optSec, List.cons_append, List.nil_append]; rfl, Or.inr (Or.inl rfl)⟩

/-- **`read_build` reads a statement as written.**  Every path lands in the section it was written in, in
    order, with the four input counts and the explicit-output count equal to the section lengths; the rule name
    and the indented bindings are read exactly; the scanner is left at the next statement. -/
theorem readBuild_spec (buf : Array UInt8) (b : BuildText) (after : Bytes) (hwf : BuildWF b after)
    (s : Scanner) (g : G buf s) (hr : Rest buf s.ofs (b.bytes after)) :
    ∃ s', readBuild s = .ok (.build
        { rule := b.rule, line := s.line, outs := b.outsV, explicitOuts := (sectionValues b.eouts).length,
          ins := b.insV, explicitIns := (sectionValues b.eins).length, implicitIns := (optVals b.iins).length,
          orderOnlyIns := (optVals b.oins).length, validationIns := (optVals b.vins).length,
          vars := b.varsV }) s' ∧ G buf s' ∧ Rest buf s'.ofs after := by
  obtain ⟨c, x, hcx, hcid⟩ := hwf.ruleEnd
  have hrule := readIdentGen_reads buf true "failed to scan ident" b.rule hwf.ruleNe hwf.ruleId c x hcid
  rw [← hcx] at hrule
  -- the counts `read_build` computes by subtraction are the section lengths
  have hcount : ∀ n0 n1 n2 n3 : Nat, n0 + n1 - n0 = n1 ∧ n0 + n1 + n2 - n1 - n0 = n2 ∧
      n0 + n1 + n2 + n3 - n2 - n1 - n0 = n3 := fun _ _ _ _ => by omega
  obtain ⟨e1, e2, e3⟩ := hcount (sectionValues b.eins).length (optVals b.iins).length (optVals b.oins).length
    (optVals b.vins).length
  unfold readBuild
  rw [pLine_bind]
  refine Reads.run ?_ g hr
  exact
    (section_reads buf b.eouts _ (optSec_pipe_head b.iouts ⟨_, _, rfl, Or.inl rfl⟩) hwf.eouts []).bind <|
      (optImplicitOuts_spec buf b.iouts _ hwf.iouts _).bind <|
      (Reads.expect COLON _ (by decide)).bind <|
      (skipSpaces_reads buf b.colonGap _ (gapEnd_ident b.rule hwf.ruleNe hwf.ruleId _)).bind <|
      hrule.bind <|
      (section_reads buf b.eins _ (optSec_pipe_head b.iins (tail3_barOrNl b after).head) hwf.eins []).bind <|
      (optImplicit_spec buf b.iins _ (tail3_barOrNl b after) hwf.iins _).bind <|
      (optOrderOnly_spec buf b.oins _ (tail4_atOrNl b after) hwf.oins _).bind <|
      (optValidation_spec buf b.vins _ hwf.vins _).bind <|
      (Reads.expect NL _ (by decide)).bind <|
      (readScopedVars_reads buf (fun _ => true) after hwf.afterOk b.bindings hwf.binds).bind <|
      Reads.pure_as (by
        simp only [List.nil_append, List.length_append, BuildText.outsV, BuildText.insV, BuildText.varsV, e1, e2, e3]) _

def kwRule : Bytes := [114, 117, 108, 101]
def kwBuild : Bytes := [98, 117, 105, 108, 100]
def kwDefault : Bytes := [100, 101, 102, 97, 117, 108, 116]
def kwInclude : Bytes := [105, 110, 99, 108, 117, 100, 101]
def kwSubninja : Bytes := [115, 117, 98, 110, 105, 110, 106, 97]
def kwPool : Bytes := [112, 111, 111, 108]

theorem kw_rule : bytesOfString "rule" = kwRule := by decide +kernel
theorem kw_build : bytesOfString "build" = kwBuild := by decide +kernel
theorem kw_default : bytesOfString "default" = kwDefault := by decide +kernel
theorem kw_include : bytesOfString "include" = kwInclude := by decide +kernel
theorem kw_subninja : bytesOfString "subninja" = kwSubninja := by decide +kernel
theorem kw_pool : bytesOfString "pool" = kwPool := by decide +kernel

/-- What `Parser::read` does once it has the leading identifier. -/
def dispatch (ident : Bytes) : PM Item :=
  if ident == kwRule then do let s ← readRule; pure (.stmt s)
  else if ident == kwBuild then do let s ← readBuild; pure (.stmt s)
  else if ident == kwDefault then do let s ← readDefault; pure (.stmt s)
  else if ident == kwInclude then do let e ← readEval false; pure (.stmt (.include e))
  else if ident == kwSubninja then do let e ← readEval false; pure (.stmt (.subninja e))
  else if ident == kwPool then do let s ← readPool; pure (.stmt s)
  else do
    let v ← readVardef
    pure (.binding ident v)

theorem dispatch_rule : dispatch kwRule = (do let s ← readRule; pure (.stmt s)) := rfl
theorem dispatch_build : dispatch kwBuild = (do let s ← readBuild; pure (.stmt s)) := rfl
theorem dispatch_default : dispatch kwDefault = (do let s ← readDefault; pure (.stmt s)) := rfl
theorem dispatch_include : dispatch kwInclude = (do let e ← readEval false; pure (.stmt (.include e))) := rfl
theorem dispatch_subninja : dispatch kwSubninja = (do let e ← readEval false; pure (.stmt (.subninja e))) := rfl
theorem dispatch_pool : dispatch kwPool = (do let s ← readPool; pure (.stmt s)) := rfl

theorem bytes_not_beq {a b : Bytes} (h : a ≠ b) : ¬ (a == b) = true := fun e => h (eq_of_beq e)

theorem dispatch_other {name : Bytes} (h : name ∉ [kwRule, kwBuild, kwDefault, kwInclude, kwSubninja, kwPool]) :
    dispatch name = (do let v ← readVardef; pure (.binding name v)) := by
  simp only [List.mem_cons, List.not_mem_nil, or_false, not_or] at h
  obtain ⟨k1, k2, k3, k4, k5, k6⟩ := h
  unfold dispatch
  rw [if_neg (bytes_not_beq k1), if_neg (bytes_not_beq k2), if_neg (bytes_not_beq k3), if_neg (bytes_not_beq k4),
    if_neg (bytes_not_beq k5), if_neg (bytes_not_beq k6)]

theorem ident_first {c : UInt8} (h : isIdentChar c true = true) :
    c ≠ NUL ∧ c ≠ NL ∧ c ≠ HASH ∧ c ≠ SP ∧ c ≠ TAB :=
  ⟨identChar_ne h (by decide), identChar_ne h (by decide), identChar_ne h (by decide), identChar_ne h (by decide),
    identChar_ne h (by decide)⟩

/-- A statement keyword is followed by spacing. -/
theorem kw_end (gs : List PGap) (hgs : gs ≠ []) (x : Bytes) :
    HeadIs (fun c => isIdentChar c true = false) (pgapBytes gs ++ x) := by
  cases gs with
  | nil => exact absurd rfl hgs
  | cons gi gr => cases gi <;> exact ⟨_, _, rfl, by decide⟩

theorem readItem_ident (buf : Array UInt8) (name : Bytes) (hne : name ≠ []) (hid : ∀ c ∈ name, isIdentChar c true = true)
    (gs : List PGap) (x : Bytes) (hx : GapEnd x) (hend : HeadIs (fun c => isIdentChar c true = false) (pgapBytes gs ++ x))
    (fuel : Nat) (s : Scanner) (hs : At buf s (name ++ (pgapBytes gs ++ x))) :
    ∃ s2, At buf s2 x ∧ readItem (fuel + 1) s = dispatch name s2 := by
  obtain ⟨c, r, hcr, hc⟩ := hend
  obtain ⟨c0, n0, hname⟩ := List.exists_cons_of_ne_nil hne
  have hc0 := ident_first (hid c0 (by rw [hname]; exact List.mem_cons_self))
  have hp : pPeek s = .ok c0 s := by rw [hname] at hs; exact pPeek_at hs
  obtain ⟨s1, h1, hs1⟩ := readIdentGen_reads buf true "failed to scan ident" name hne hid c r hc s (hcr ▸ hs)
  obtain ⟨s2, h2, hs2⟩ := skipSpaces_reads buf gs x hx s1 (hcr ▸ hs1)
  refine ⟨s2, hs2, ?_⟩
  have e4 : ¬ (c0 == SP || c0 == TAB) = true := by
    rw [byte_beq_false hc0.2.2.2.1, byte_beq_false hc0.2.2.2.2]; decide
  unfold readItem readIdent
  rw [bind_eq hp, if_neg (byte_not_beq hc0.1), if_neg (byte_not_beq hc0.2.1),
    if_neg (byte_not_beq hc0.2.2.1), if_neg e4, bind_eq h1, bind_eq h2, kw_rule,
    kw_build, kw_default, kw_include, kw_subninja, kw_pool]
  rfl

theorem readItem_reads (buf : Array UInt8) (name : Bytes) (hne : name ≠ []) (hid : ∀ c ∈ name, isIdentChar c true = true)
    (gs : List PGap) (x : Bytes) (hx : GapEnd x) (hend : HeadIs (fun c => isIdentChar c true = false) (pgapBytes gs ++ x))
    (fuel : Nat) {v : Item} {y : Bytes} (h : Reads buf (dispatch name) v x y) :
    Reads buf (readItem (fuel + 1)) v (name ++ (pgapBytes gs ++ x)) y := fun s hs =>
  let ⟨s2, hs2, e⟩ := readItem_ident buf name hne hid gs x hx hend fuel s hs
  let ⟨s', e', hs'⟩ := h s2 hs2
  ⟨s', e.trans e', hs'⟩

theorem readItem_blank (buf : Array UInt8) (x : Bytes) (fuel : Nat) (s : Scanner) (g : G buf s)
    (hr : Rest buf s.ofs (NL :: x)) :
    ∃ s1, G buf s1 ∧ Rest buf s1.ofs x ∧ readItem (fuel + 1) s = readItem fuel s1 := by
  refine ⟨s.step NL, G.step g.w hr.head nl_inner, hr.tail, ?_⟩
  conv => lhs; unfold readItem
  rw [bind_eq (pPeek_byte g.w hr.head), if_neg (by decide), if_pos (by decide), bind_eq (pNext_step g.w hr.head)]

theorem readItem_eof (buf : Array UInt8) (x : Bytes) (fuel : Nat) (s : Scanner) (g : G buf s)
    (hr : Rest buf s.ofs (NUL :: x)) : readItem (fuel + 1) s = .ok .eof s := by
  unfold readItem
  rw [bind_eq (pPeek_byte g.w hr.head), if_pos (by decide)]
  rfl

/-- **A `build` statement is read as written**, from the keyword on. -/
theorem readItem_build (buf : Array UInt8) (gs : List PGap) (hgs : gs ≠ []) (b : BuildText) (after : Bytes)
    (hwf : BuildWF b after) (hge : GapEnd (b.bytes after)) (fuel : Nat) (s : Scanner) (g : G buf s)
    (hr : Rest buf s.ofs (kwBuild ++ (pgapBytes gs ++ b.bytes after))) :
    ∃ s' ln, readItem (fuel + 1) s = .ok (.stmt (.build
        { rule := b.rule, line := ln, outs := b.outsV, explicitOuts := (sectionValues b.eouts).length,
          ins := b.insV, explicitIns := (sectionValues b.eins).length, implicitIns := (optVals b.iins).length,
          orderOnlyIns := (optVals b.oins).length, validationIns := (optVals b.vins).length,
          vars := b.varsV })) s' ∧ G buf s' ∧ Rest buf s'.ofs after := by
  obtain ⟨s2, hs2, e⟩ := readItem_ident buf kwBuild (by decide) (by decide) gs _ hge (kw_end gs hgs _) fuel s ⟨g, hr⟩
  obtain ⟨s', h', g', hr'⟩ := readBuild_spec buf b after hwf s2 hs2.g hs2.rest
  refine ⟨s', s2.line, ?_, g', hr'⟩
  rw [e, dispatch_build, bind_eq h']
  rfl

theorem readItem_binding (buf : Array UInt8) (name : Bytes) (hne : name ≠ []) (hid : ∀ c ∈ name, isIdentChar c true = true)
    (hkw : name ∉ [kwRule, kwBuild, kwDefault, kwInclude, kwSubninja, kwPool])
    (v : ValueText) (r : Bytes) (hwf : ValueWF v r) (fuel : Nat) (s : Scanner) (g : G buf s)
    (hr : Rest buf s.ofs (name ++ (valueBytes v ++ r))) :
    ∃ s', readItem (fuel + 1) s = .ok (.binding name (valueOf v)) s' ∧ G buf s' ∧ Rest buf s'.ofs r := by
  have hsplit : valueBytes v ++ r = pgapBytes v.g1 ++ (valueBytes { v with g1 := [] } ++ r) := by
    rw [valueBytes_split, List.append_assoc]
  obtain ⟨c, x, hcx, hc⟩ := valueBytes_head v
  have hend : HeadIs (fun c => isIdentChar c true = false) (pgapBytes v.g1 ++ (valueBytes { v with g1 := [] } ++ r)) :=
    ⟨c, x ++ r, by rw [← hsplit, hcx]; rfl, hc⟩
  rw [hsplit] at hr
  refine (readItem_reads buf name hne hid v.g1 _ (gapEnd_eq _) hend fuel ?_).run g hr
  rw [dispatch_other hkw]
  exact (readVardef_reads buf { v with g1 := [] } r hwf).map (Item.binding name)

theorem nameBlock_reads {β : Type} (buf : Array UInt8) (valid : Bytes → Bool) (name : Bytes) (hne : name ≠ [])
    (hid : ∀ c ∈ name, isIdentChar c true = true) (bs : List BindingText) (after : Bytes)
    (hafter : HeadIs (fun c => c ≠ SP) after) (hwf : BindingsWF valid bs after) (f : Bytes → EvalMap → PM β) {v : β}
    (h : Reads buf (f name (storeAll bs [])) v after after) :
    Reads buf (do let name ← readIdent; pExpect NL; let vars ← readScopedVars valid; f name vars) v
      (name ++ NL :: (bindingsBytes bs ++ after)) after :=
  (readIdentGen_reads buf true "failed to scan ident" name hne hid NL _ (by decide)).bind <|
    (Reads.expect NL _ (by decide)).bind <| (readScopedVars_reads buf valid after hafter bs hwf).bind h

/-- **A `rule` statement is read as written**: its name and its bindings (those with a known rule
    variable name). -/
theorem readItem_rule (buf : Array UInt8) (gs : List PGap) (hgs : gs ≠ []) (name : Bytes) (hne : name ≠ [])
    (hid : ∀ c ∈ name, isIdentChar c true = true) (bs : List BindingText) (after : Bytes) (c0 : UInt8) (r0 : Bytes)
    (hafter : after = c0 :: r0) (hc0 : c0 ≠ SP) (hwf : BindingsWF isRuleVar bs after)
    (fuel : Nat) (s : Scanner) (g : G buf s)
    (hr : Rest buf s.ofs (kwRule ++ (pgapBytes gs ++ (name ++ NL :: (bindingsBytes bs ++ after))))) :
    ∃ s', readItem (fuel + 1) s =
        .ok (.stmt (.rule name (storeAll bs []))) s' ∧
      G buf s' ∧ Rest buf s'.ofs after := by
  refine (readItem_reads buf kwRule (by decide) (by decide) gs _ (gapEnd_ident name hne hid _) (kw_end gs hgs _) fuel
    ?_).run g hr
  rw [dispatch_rule]
  exact (nameBlock_reads buf isRuleVar name hne hid bs after ⟨c0, r0, hafter, hc0⟩ hwf
    (fun name vars => pure (Stmt.rule name vars)) (Reads.pure _ _)).map Item.stmt

/-- The depth a `pool` block declares: the value of its first stored `depth` binding (the last
    one written wins in the map), 0 when there is none. -/
def poolDepth (vars : EvalMap) : Option Nat :=
  match vars with
  | [] => some 0
  | (_, val) :: _ => parseUsize (Eval.evaluate [] val)

/-- **A `pool` statement is read as written**: its name, and the depth its `depth` binding gives
    (bindings with other names are rejected by the reader, so the block holds only `depth`). -/
theorem readItem_pool (buf : Array UInt8) (gs : List PGap) (hgs : gs ≠ []) (name : Bytes) (hne : name ≠ [])
    (hid : ∀ c ∈ name, isIdentChar c true = true) (bs : List BindingText) (after : Bytes) (c0 : UInt8) (r0 : Bytes)
    (hafter : after = c0 :: r0) (hc0 : c0 ≠ SP) (hwf : BindingsWF (fun n => n == bytesOfString "depth") bs after)
    (d : Nat) (hd : poolDepth (storeAll bs []) = some d)
    (fuel : Nat) (s : Scanner) (g : G buf s)
    (hr : Rest buf s.ofs (kwPool ++ (pgapBytes gs ++ (name ++ NL :: (bindingsBytes bs ++ after))))) :
    ∃ s', readItem (fuel + 1) s = .ok (.stmt (.pool name d)) s' ∧ G buf s' ∧ Rest buf s'.ofs after := by
  refine (readItem_reads buf kwPool (by decide) (by decide) gs _ (gapEnd_ident name hne hid _) (kw_end gs hgs _) fuel
    ?_).run g hr
  rw [dispatch_pool]
  refine Reads.map Item.stmt ?_
  unfold readPool
  refine nameBlock_reads buf _ name hne hid bs after ⟨c0, r0, hafter, hc0⟩ hwf _ ?_
  generalize storeAll bs [] = vars at hd ⊢
  unfold poolDepth at hd
  cases vars with
  | nil => cases hd; exact Reads.pure _ _
  | cons kv rest =>
    obtain ⟨k, val⟩ := kv
    simp only [] at hd ⊢
    rw [hd]
    exact Reads.pure _ _

theorem readItem_default (buf : Array UInt8) (gs : List PGap) (hgs : gs ≠ []) (ps : List (PathText × List PGap))
    (hps : ps ≠ []) (after : Bytes) (hwf : PathsWF ps (NL :: after)) (hge : GapEnd (pathsBytes ps ++ NL :: after))
    (fuel : Nat) (s : Scanner) (g : G buf s)
    (hr : Rest buf s.ofs (kwDefault ++ (pgapBytes gs ++ (pathsBytes ps ++ NL :: after)))) :
    ∃ s', readItem (fuel + 1) s = .ok (.stmt (.default (ps.map (fun pg => pathValue pg.1)))) s' ∧
      G buf s' ∧ Rest buf s'.ofs after := by
  refine (readItem_reads buf kwDefault (by decide) (by decide) gs _ hge (kw_end gs hgs _) fuel ?_).run g hr
  have hread := readPathsTo_reads buf (NL :: after) ⟨_, _, rfl, Or.inr (Or.inr rfl)⟩ [] ps hwf hge []
  rw [List.nil_append] at hread
  have hsome : ¬ (ps.map (fun pg => pathValue pg.1)).isEmpty = true := fun h =>
    hps (List.map_eq_nil_iff.mp (List.isEmpty_iff.mp h))
  rw [dispatch_default]
  unfold readDefault
  exact (hread.bind (Reads.ite_neg hsome ((Reads.expect NL _ (by decide)).bind
    (Reads.pure (Stmt.default _) _)))).map Item.stmt

/-- **`include` and `subninja` read their path as written** (up to, not including, the newline). -/
theorem readItem_include (buf : Array UInt8) (sub : Bool) (gs : List PGap) (hgs : gs ≠ []) (t : PathText) (r : Bytes)
    (hwf : SegsWF false t.1 (t.2 ++ NL :: r)) (hlast : ∀ c ∈ t.2, plain false c) (hne : pathValue t ≠ [])
    (hge : GapEnd (pathBytes t ++ NL :: r)) (fuel : Nat) (s : Scanner) (g : G buf s)
    (hr : Rest buf s.ofs ((if sub then kwSubninja else kwInclude) ++ (pgapBytes gs ++ (pathBytes t ++ NL :: r)))) :
    ∃ s', readItem (fuel + 1) s =
        .ok (.stmt (if sub then .subninja (pathValue t) else .include (pathValue t))) s' ∧
      G buf s' ∧ Rest buf s'.ofs (NL :: r) := by
  have hread := readEval_reads buf false t.1 t.2 NL r hwf hlast (Or.inl rfl) hne
  rw [← pathBytes] at hread
  cases sub with
  | false =>
    refine (readItem_reads buf kwInclude (by decide) (by decide) gs _ hge (kw_end gs hgs _) fuel ?_).run g hr
    rw [dispatch_include]
    exact hread.map fun e => Item.stmt (.include e)
  | true =>
    refine (readItem_reads buf kwSubninja (by decide) (by decide) gs _ hge (kw_end gs hgs _) fuel ?_).run g hr
    rw [dispatch_subninja]
    exact hread.map fun e => Item.stmt (.subninja e)

theorem skipCommentLoop_reads (buf : Array UInt8) (x : Bytes) (body : Bytes) : (∀ c ∈ body, c ≠ NUL ∧ c ≠ NL ∧ c ≠ CR) →
    ∀ (fuel : Nat), (body ++ NL :: x).length ≤ fuel → Reads buf (skipCommentLoop fuel) () (body ++ NL :: x) x := by
  induction body with
  | nil =>
    intro _ fuel hf s hs
    obtain ⟨fuel, rfl, _⟩ := fuel_cons hf
    refine ⟨s.step NL, ?_, hs.step nl_inner⟩
    unfold skipCommentLoop
    rw [bind_eq (pRead_at hs), if_neg (by decide), if_pos (by decide)]
    rfl
  | cons c body ih =>
    intro hb fuel hf s hs
    obtain ⟨fuel, rfl, hf'⟩ := fuel_cons hf
    have hc := hb c List.mem_cons_self
    obtain ⟨s', h', hs'⟩ := ih (fun y hy => hb y (List.mem_cons_of_mem _ hy)) fuel hf' _ (hs.step ⟨hc.1, hc.2.2⟩)
    refine ⟨s', ?_, hs'⟩
    unfold skipCommentLoop
    rw [bind_eq (pRead_at hs), if_neg (byte_not_beq hc.1), if_neg (byte_not_beq hc.2.1)]
    exact h'

theorem readItem_comment (buf : Array UInt8) (body x : Bytes) (hb : ∀ c ∈ body, c ≠ NUL ∧ c ≠ NL ∧ c ≠ CR)
    (fuel : Nat) (s : Scanner) (g : G buf s) (hr : Rest buf s.ofs (HASH :: (body ++ NL :: x))) :
    ∃ s1, G buf s1 ∧ Rest buf s1.ofs x ∧ readItem (fuel + 1) s = readItem fuel s1 := by
  have hb' : ∀ c ∈ HASH :: body, c ≠ NUL ∧ c ≠ NL ∧ c ≠ CR := by
    intro c hc
    rcases List.mem_cons.mp hc with rfl | h
    · exact ⟨by decide, by decide, by decide⟩
    · exact hb c h
  have hskip : Reads buf skipComment () (HASH :: (body ++ NL :: x)) x :=
    Reads.size fun hf => skipCommentLoop_reads buf x (HASH :: body) hb' _ hf
  obtain ⟨s1, h1, hs1⟩ := hskip s ⟨g, hr⟩
  refine ⟨s1, hs1.g, hs1.rest, ?_⟩
  conv => lhs; unfold readItem
  rw [bind_eq (pPeek_byte g.w hr.head), if_neg (by decide), if_neg (by decide), if_pos (by decide), bind_eq h1]

/-! Non-vacuity of `BuildWF`: a statement that meets it. -/

instance (sep : Bool) (c : UInt8) : Decidable (plain sep c) := by unfold plain; infer_instance
instance (sep : Bool) (t : UInt8) : Decidable (stops sep t) := by unfold stops; infer_instance

/-- ` o: cc a | b || c` / `  x = 1`. -/
def exBuild : BuildText where
  eouts := ([.sp], [(([], [111]), [])])
  iouts := none
  colonGap := [.sp]
  rule := [99, 99]
  eins := ([.sp], [(([], [97]), [.sp])])
  iins := some ([.sp], [(([], [98]), [.sp])])
  oins := some ([.sp], [(([], [99]), [])])
  vins := none
  bindings := [{ indent := 1, name := [120], rhs := { g1 := [.sp], g2 := [.sp], value := some ([], [49]) } }]

example : exBuild.bytes [NL] =
    [32, 111, 58, 32, 99, 99, 32, 97, 32, 124, 32, 98, 32, 124, 124, 32, 99, 10, 32, 32, 120, 32, 61, 32, 49, 10, 10] := by
  decide

/-- The example meets `BuildWF` with any spacing before its first output and in front of any text that
    does not begin with a space (no hypothesis of `BuildWF` looks further than that). -/
theorem exBuild_wf_of (lead : List PGap) (after : Bytes) (hafter : ∃ c0 r0, after = c0 :: r0 ∧ c0 ≠ SP) :
    BuildWF { exBuild with eouts := (lead, [(([], [111]), [])]) } after := by
  refine ⟨?_, ?_, ?_, ?_, ?_, ?_, ?_, ?_, ?_, ?_, hafter⟩
  · exact ⟨⟨⟨_, _, rfl, by decide⟩, trivial, by decide, by decide, gapEnd_of (by decide) (by decide), trivial⟩,
      gapEnd_of (by decide) (by decide)⟩
  · intro sec h; cases h
  · show exBuild.rule ≠ []; decide
  · show ∀ c ∈ exBuild.rule, isIdentChar c true = true; decide
  · exact ⟨_, _, rfl, by decide⟩
  · exact ⟨⟨⟨_, _, rfl, by decide⟩, trivial, by decide, by decide, gapEnd_of (by decide) (by decide), trivial⟩,
      gapEnd_of (by decide) (by decide)⟩
  · intro sec h; cases h
    exact ⟨⟨⟨⟨_, _, rfl, by decide⟩, trivial, by decide, by decide, gapEnd_of (by decide) (by decide), trivial⟩,
      gapEnd_of (by decide) (by decide)⟩, _, _, rfl, by decide, by decide⟩
  · intro sec h; cases h
    exact ⟨⟨⟨_, _, rfl, by decide⟩, trivial, by decide, by decide, gapEnd_of (by decide) (by decide), trivial⟩,
      gapEnd_of (by decide) (by decide)⟩
  · intro sec h; cases h
  · exact ⟨by decide, by decide, rfl,
      ⟨trivial, by decide, by decide, gapEnd_of (by decide) (by decide), _, _, rfl, by decide⟩, trivial⟩

theorem exBuild_wf : BuildWF exBuild [NL] := exBuild_wf_of [.sp] [NL] ⟨_, _, rfl, by decide⟩

end N2V.Parse
