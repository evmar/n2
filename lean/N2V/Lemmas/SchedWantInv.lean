/-
  The want phase preserves the whole scheduler invariant.

  `want_build` can be re-entered for a build whose first visit has not assigned a state yet
  (through a validation edge of something it depends on: validation inputs are visited with a
  fresh cycle stack *after* the depended-on build got its state).  The second visit then assigns
  first, and the outer one assigns again.  This is harmless: the outer assignment is then always
  `Want` over `Want` (`build_set_rel`); in particular a build is never appended to the ready queue
  twice.  `want_inv_ok` and `want_inv_err_all` carry this through every call by the rules of
  Lemmas/SchedWantRec.
-/
import N2V.Lemmas.SchedTrace
import N2V.Lemmas.SchedProgress
import N2V.Lemmas.SchedWant
namespace N2V.Sched

/-- The only thing the theorems ask of the graph: producers are builds of the graph
    (`File::input` holds a `BuildId` that indexes `graph.builds`). -/
def GraphOK (g : Graph) : Prop := ∀ f p, g.producer f = some p → p < g.nBuilds

/-- What one call of the want phase may do to the state. -/
structure WRel (g : Graph) (par : Nat) (s s' : S) : Prop where
  inv : Inv g par s'
  frame : ∀ b, s.st b ≠ .unknown → s'.st b = s.st b
  mono : ∀ b, s.st b = .unknown → s'.st b = .unknown ∨ s'.st b = .want ∨ s'.st b = .ready
  tinv : ∀ shape, TInv g par shape s → TInv g par shape s'
  frm : Frame s s'
  pinv : PInv g s → PInv g s'

theorem WRel.refl {g : Graph} {par : Nat} {s : S} (inv : Inv g par s) : WRel g par s s :=
  ⟨inv, fun _ _ => rfl, fun _ h => Or.inl h, fun _ t => t, Frame.refl s, fun q => q⟩

theorem WRel.trans {g : Graph} {par : Nat} {a b c : S} (h1 : WRel g par a b) (h2 : WRel g par b c) :
    WRel g par a c := by
  refine ⟨h2.inv, ?_, ?_, fun sh t => h2.tinv sh (h1.tinv sh t), h1.frm.trans h2.frm, fun q => h2.pinv (h1.pinv q)⟩
  · intro x hx
    have := h1.frame x hx
    rw [h2.frame x (by rw [this]; exact hx), this]
  · intro x hx
    rcases h1.mono x hx with h | h | h
    · exact h2.mono x h
    · right; left; rw [h2.frame x (by rw [h]; simp), h]
    · right; right; rw [h2.frame x (by rw [h]; simp), h]

def PF (g : Graph) (par : Nat) (s : S) (f : Nat) : WR Bool → Prop
  | .ok r s' => WRel g par s s' ∧
      (r = true → s' = s ∧ ∀ p, g.producer f = some p → s.st p = .done) ∧
      (r = false → ∃ p, g.producer f = some p ∧ s'.st p ≠ .done ∧ s'.st p ≠ .unknown) ∧
      (∀ p, g.producer f = some p → s'.st p ≠ .unknown)
  | .err _ s' => WRel g par s s'
  | .bad _ => True

def PB (g : Graph) (par : Nat) (s : S) (id : Nat) : WR St → Prop
  | .ok x s' => WRel g par s s' ∧ s'.st id = x ∧ x ≠ .unknown ∧ (x = .done → s' = s)
  | .err _ s' => WRel g par s s'
  | .bad _ => True

def PI (g : Graph) (par : Nat) (s : S) (fs : List Nat) (rd : Bool) : WR Bool → Prop
  | .ok r s' => WRel g par s s' ∧
      (r = true → s' = s ∧ rd = true ∧ ∀ f ∈ fs, ∀ p, g.producer f = some p → s.st p = .done) ∧
      (r = false → rd = false ∨
        ∃ f ∈ fs, ∃ p, g.producer f = some p ∧ s'.st p ≠ .done ∧ s'.st p ≠ .unknown) ∧
      (∀ f ∈ fs, ∀ p, g.producer f = some p → s'.st p ≠ .unknown)
  | .err _ s' => WRel g par s s'
  | .bad _ => True

def PV (g : Graph) (par : Nat) (s : S) : WR Unit → Prop
  | .ok _ s' => WRel g par s s'
  | .err _ s' => WRel g par s s'
  | .bad _ => True

/-- The progress invariant across a `set` to `Want`/`Ready` of a build that was not `Done`: a
    `Ready` build is on the ready queue, a `Want` one does not pass `recheck_ready`. -/
theorem set_want_pinv {g : Graph} {s s' : S} {id : Nat} {new : St} (h : set g s id new = .ok s')
    (hnew : new = .want ∨ new = .ready) (hpd : s.st id ≠ .done)
    (hw : new = .want → recheckReady g s id = false)
    (hclo : ∀ f ∈ (g.build id).ordering, ∀ p, g.producer f = some p → s.st p ≠ .unknown)
    (q : PInv g s) : PInv g s' := by
  have hne : ∀ x, x ≠ .want → x ≠ .ready → new ≠ x := fun x h1 h2 e =>
    hnew.elim (fun h => h1 (e.symm.trans h)) (fun h => h2 (e.symm.trans h))
  have hdone : ∀ x, (s'.st x = .done ↔ s.st x = .done) := fun x => by
    by_cases e : x = id
    · rw [e, set_st_self h]; exact ⟨fun e' => absurd e' (hne _ (by simp) (by simp)), fun e' => absurd e' hpd⟩
    · rw [set_st_ne h e]
  -- a build other than `id` is where it was; `id` is now `Want` or `Ready`
  have old : ∀ {b x}, s'.st b = x → x ≠ .want → x ≠ .ready → s.st b = x := fun {b x} hb h1 h2 => by
    by_cases e : b = id
    · rw [e, set_st_self h] at hb; exact absurd hb (hne x h1 h2)
    · rwa [set_st_ne h e] at hb
  refine ⟨fun b hb => ?_, fun b hb => set_queued_mem h b (q.que b (old hb (by simp) (by simp))),
    fun b hb => ?_, fun b hb f hf p hp => ?_, fun b hb => set_tasksFailed h ▸ q.fld b (old hb (by simp) (by simp))⟩
  · rw [set_ready h]
    by_cases e : b = id
    · rw [e, set_st_self h] at hb; simp [hb, e]
    · rw [set_st_ne h e] at hb; split <;> simp [q.rdy b hb]
  · rw [recheckReady_congr g s s' b hdone]
    by_cases e : b = id
    · rw [e, set_st_self h] at hb; exact e ▸ hw hb
    · rw [set_st_ne h e] at hb; exact q.wnt b hb
  · by_cases e : p = id
    · rw [e, set_st_self h]; exact hne _ (by simp) (by simp)
    · rw [set_st_ne h e]
      by_cases e2 : b = id
      · exact hclo f (e2 ▸ hf) p hp
      · rw [set_st_ne h e2] at hb; exact q.clo b hb f hf p hp

/-- `set` to `Want`/`Ready` of a build that is `Unknown`, or `Want` over `Want`. -/
theorem set_want_inv {g : Graph} {par : Nat} {s s' : S} {id : Nat} {new : St}
    (inv : Inv g par s) (hid : id < g.nBuilds) (h : set g s id new = .ok s')
    (hnew : new = .want ∨ new = .ready)
    (hprev : s.st id = .unknown ∨ (s.st id = .want ∧ new = .want))
    (hord : new = .ready → ∀ f ∈ (g.build id).ordering, ∀ p, g.producer f = some p → s.st p = .done)
    (hw : new = .want → recheckReady g s id = false)
    (hclo : ∀ f ∈ (g.build id).ordering, ∀ p, g.producer f = some p → s.st p ≠ .unknown) :
    WRel g par s s' := by
  have hp1 : s.st id ≠ .done ∧ s.st id ≠ .failed ∧ s.st id ≠ .ready ∧ s.st id ≠ .queued ∧ s.st id ≠ .running := by
    rcases hprev with h | ⟨h, _⟩ <;> rw [h] <;> simp
  have hn1 : new ≠ .unknown ∧ new ≠ .running := by rcases hnew with h | h <;> rw [h] <;> simp
  have inv' : Inv g par s' := set_inv inv h hid hn1.1 ⟨hp1.1, hp1.2.1⟩
    (fun e => absurd e hp1.2.2.1) (fun e => absurd e hp1.2.2.2.1)
    (fun hg => hord (hnew.resolve_left fun h => by simp [h, gated] at hg))
    (runDelta_zero hp1.2.2.2.2 hn1.2)
  have hlegal : legal (s.st id) new = true := by
    rcases hprev with h | ⟨h, h2⟩
    · rw [h]; rcases hnew with h' | h' <;> rw [h'] <;> rfl
    · rw [h, h2]; rfl
  refine ⟨inv', fun b hb => ?_, fun b hb => ?_,
    fun sh t => set_tinv t inv'.toInvCore.exact h hid hlegal (fun e => absurd e hn1.2), set_frm h,
    set_want_pinv h hnew hp1.1 hw hclo⟩
  · by_cases e : b = id
    · rw [e, set_st_self h]
      rcases hprev with h | ⟨h, h2⟩
      · exact absurd h (e ▸ hb)
      · rw [h, h2]
    · rw [set_st_ne h e]
  · by_cases e : b = id
    · rw [e, set_st_self h]; exact .inr hnew
    · rw [set_st_ne h e]; exact .inl hb

section
variable {g : Graph} {par : Nat}

/-- The `set` that `want_build` makes once the ordering inputs of a build that was `Unknown` have
    been walked. -/
theorem build_set_rel {s s1 s2 : S} {id : Nat} {rd : Bool} (hid : id < g.nBuilds)
    (hunk : s.st id = .unknown) (hi : PI g par s (g.build id).ordering true (.ok rd s1))
    (hs : set g s1 id (if rd then .ready else .want) = .ok s2) : WRel g par s1 s2 := by
  obtain ⟨rel1, htrue, hfalse, hclo1⟩ := hi
  cases rd with
  | true =>
    replace hs : set g s1 id .ready = .ok s2 := hs
    obtain ⟨e, -, hall⟩ := htrue rfl
    subst e
    exact set_want_inv rel1.inv hid hs (.inr rfl) (.inl hunk) (fun _ => hall) nofun hclo1
  | false =>
    replace hs : set g s1 id .want = .ok s2 := hs
    -- some ordering input has a producer that is not `Done`
    obtain ⟨f, hf, p, hp, hnd, -⟩ := (hfalse rfl).resolve_left (by simp)
    have hrf : recheckReady g s1 id = false :=
      Bool.eq_false_iff.mpr fun hrr => hnd (recheckReady_iff.mp hrr f hf p hp)
    refine set_want_inv rel1.inv hid hs (.inl rfl) ?_ nofun (fun _ => hrf) hclo1
    rcases rel1.mono id hunk with h | h | h
    · exact .inl h
    · exact .inr ⟨h, rfl⟩
    · exact absurd (rel1.inv.ordered id (by rw [h]; simp [gated]) f hf p hp) hnd

variable (gok : GraphOK g)
include gok

/-- Every call of the want phase that succeeds from a state satisfying the invariant. -/
theorem want_inv_ok :
    WantOk g (fun s _ f r s' => Inv g par s → PF g par s f (.ok r s'))
      (fun s _ id x s' => Inv g par s → id < g.nBuilds → PB g par s id (.ok x s'))
      (fun s _ fs rd r s' => Inv g par s → PI g par s fs rd (.ok r s')) where
  leaf := fun hprod inv =>
    ⟨WRel.refl inv, fun _ => ⟨rfl, fun p hp => nomatch hprod.symm.trans hp⟩, nofun,
      fun p hp => nomatch hprod.symm.trans hp⟩
  file := fun {_ s _ f bid state s'} hprod _ hb inv => by
    obtain ⟨rel, hst, hne, hdone⟩ := hb inv (gok f bid hprod)
    refine ⟨rel, fun hd => ?_, fun hd => ?_, fun p hp => ?_⟩
    · have hd' : state = .done := by simpa using hd
      have e := hdone hd'
      refine ⟨e, fun p hp => ?_⟩
      rw [hprod] at hp; cases hp
      rw [← e, hst]; exact hd'
    · have hd' : state ≠ .done := by simpa using hd
      exact ⟨bid, hprod, by rw [hst]; exact hd', by rw [hst]; exact hne⟩
    · rw [hprod] at hp; cases hp; rw [hst]; exact hne
  known := fun hk inv _ => ⟨WRel.refl inv, rfl, hk, fun _ => rfl⟩
  build := fun {_ s _ id rd s1 s2 _ s3} hunk _ hi hs _ hv inv hid => by
    have hi := hi inv
    have rel2 := build_set_rel hid hunk hi hs
    have hv : WRel g par s2 s3 := (hv rel2.inv).1
    have hne : (if rd then St.ready else St.want) ≠ .unknown ∧ (if rd then St.ready else St.want) ≠ .done := by
      cases rd <;> simp
    refine ⟨(hi.1.trans rel2).trans hv, ?_, hne.1, fun e => absurd e hne.2⟩
    rw [hv.frame id (by rw [set_st_self hs]; exact hne.1), set_st_self hs]
  nil := fun inv => ⟨WRel.refl inv, fun h => ⟨rfl, h, by simp⟩, fun h => .inl h, by simp⟩
  cons := fun {_ s _ f fs rd r s' r2 s2} _ hf _ hi inv => by
    obtain ⟨relf, ftrue, ffalse, fclo⟩ := hf inv
    obtain ⟨rel2, itrue, ifalse, iclo⟩ := hi relf.inv
    refine ⟨relf.trans rel2, fun hr2 => ?_, fun hr2 => ?_, fun x hx p hp => ?_⟩
    · obtain ⟨e2, hand, hall⟩ := itrue hr2
      have hrd : rd = true ∧ r = true := by simpa using hand
      obtain ⟨e1, hfp⟩ := ftrue hrd.2
      subst e2; subst e1
      refine ⟨rfl, hrd.1, fun x hx => ?_⟩
      rcases List.mem_cons.mp hx with rfl | hx
      · exact hfp
      · exact hall x hx
    · rcases ifalse hr2 with hand | ⟨x, hx, p, hp, h1, h2⟩
      · have : rd = false ∨ r = false := by
          cases rd <;> cases r <;> simp at hand ⊢
        rcases this with h | h
        · exact Or.inl h
        · obtain ⟨p, hp, h1, h2⟩ := ffalse h
          exact Or.inr ⟨f, by simp, p, hp, by rwa [rel2.frame p h2], by rwa [rel2.frame p h2]⟩
      · exact Or.inr ⟨x, by simp [hx], p, hp, h1, h2⟩
    · rcases List.mem_cons.mp hx with rfl | hx
      · rw [rel2.frame p (fclo p hp)]; exact fclo p hp
      · exact iclo x hx p hp

/-- ... and every call that stops with a dependency-cycle error: the marking done by then was
    made by calls that succeeded. -/
theorem want_inv_err_all :
    WantErr g (fun s _ _ _ s' => Inv g par s → WRel g par s s')
      (fun s _ id _ s' => Inv g par s → id < g.nBuilds → WRel g par s s')
      (fun s _ _ _ s' => Inv g par s → WRel g par s s') where
  cycle := fun _ inv => WRel.refl inv
  file := fun hp hb inv => hb inv (gok _ _ hp)
  ordering := fun _ hi inv _ => hi inv
  validation := fun hunk e1 hs hv inv hid =>
    have hi := (want_inv_ok gok).of_ins e1 inv
    have rel2 := build_set_rel hid hunk hi hs
    (hi.1.trans rel2).trans (hv rel2.inv)
  head := fun hf => hf
  tail := fun e1 hi inv =>
    have r := ((want_inv_ok gok).of_file e1 inv).1
    r.trans (hi r.inv)

end

theorem want_inv_all {g : Graph} {par : Nat} (gok : GraphOK g) : ∀ fuel : Nat,
    (∀ s stack f, Inv g par s → PF g par s f (wantFile g fuel s stack f)) ∧
    (∀ s stack id, Inv g par s → id < g.nBuilds → PB g par s id (wantBuild g fuel s stack id)) ∧
    (∀ s stack fs rd, Inv g par s → PI g par s fs rd (wantIns g fuel s stack fs rd)) ∧
    (∀ s fs, Inv g par s → PV g par s (wantVals g fuel s fs)) := by
  intro fuel
  have ok := want_inv_ok (par := par) gok
  have err := (want_inv_err_all (par := par) gok).all fuel
  refine ⟨fun s stack f inv => ?_, fun s stack id inv hid => ?_, fun s stack fs rd inv => ?_,
    fun s fs inv => ?_⟩
  · cases h : wantFile g fuel s stack f with
    | ok r s' => exact ok.of_file h inv
    | err m s' => exact err.1 h inv
    | bad => trivial
  · cases h : wantBuild g fuel s stack id with
    | ok r s' => exact ok.of_build h inv hid
    | err m s' => exact err.2.1 h inv hid
    | bad => trivial
  · cases h : wantIns g fuel s stack fs rd with
    | ok r s' => exact ok.of_ins h inv
    | err m s' => exact err.2.2 h inv
    | bad => trivial
  · rw [wantVals_eq g fuel s fs true]
    cases h : wantIns g fuel s [] fs true with
    | ok r s' => exact (ok.of_ins h inv).1
    | err m s' => exact err.2.2 h inv
    | bad => trivial

/-- **`Work::want_file` preserves the scheduler invariant**, and with it the rest of `WRel`: on
    success, and (`want_inv_err`) in the state it leaves behind when it fails part-way with a
    dependency cycle. -/
theorem want_inv {g : Graph} {par : Nat} (gok : GraphOK g) (s s' : S) (f : Nat) (inv : Inv g par s)
    (h : want g s f = .ok () s') : WRel g par s s' :=
  let ⟨_, k⟩ := (want_inv_ok gok).of_want h; (k inv).1

theorem want_inv_err {g : Graph} {par : Nat} (gok : GraphOK g) (s s' : S) (f : Nat) (m : String)
    (inv : Inv g par s) (h : want g s f = .err m s') : WRel g par s s' :=
  (want_inv_err_all gok).of_want h inv

end N2V.Sched
