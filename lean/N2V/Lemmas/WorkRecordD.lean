/-
  `record_finished` with reported dependencies: what `keepDeps` makes of a report, and with it
  what `record_finished` leaves behind, whatever the command reported.
-/
import N2V.Lemmas.WorkDisc
namespace N2V.Work
open N2V N2V.Load

/-- `i` is the id `id_from_canonical` returns for its own name (the first file of that name). -/
def CanonId (g : GraphM) (i : Nat) : Prop :=
  g.files.findIdx? (fun f => f.name == fileName g i) = some i

theorem Ext.canonId {g g' : GraphM} (h : Ext g g') (i : Nat) (hi : i < g.files.length) (hc : CanonId g i) :
    CanonId g' i := by
  unfold CanonId at hc ⊢
  rw [h.fileName_old i hi]
  obtain ⟨x, hx, _⟩ := h.files
  rw [hx, List.findIdx?_append, hc]
  rfl

theorem idFromCanonical_canon (g : GraphM) (n : Bytes) :
    CanonId (idFromCanonical g n).1 (idFromCanonical g n).2 := by
  have hname := (idFromCanonical_spec g n).2.1
  unfold CanonId
  rw [hname]
  unfold idFromCanonical
  cases h : g.files.findIdx? (fun f => f.name == n) with
  | some i => simp only []; exact h
  | none =>
    simp only []
    rw [List.findIdx?_append, h]
    simp

theorem keepDeps_ids (dirtying : List Nat) (ns : List Bytes) (e : Env) (acc : List Nat)
    (h : ∀ i ∈ acc, i < e.g.files.length ∧ CanonId e.g i ∧ i ∉ dirtying) :
    Ext e.g (keepDeps e dirtying ns acc).1.g ∧
    (UniqueNames e.g → UniqueNames (keepDeps e dirtying ns acc).1.g) ∧
    ∀ i ∈ (keepDeps e dirtying ns acc).2,
      i < (keepDeps e dirtying ns acc).1.g.files.length ∧ CanonId (keepDeps e dirtying ns acc).1.g i ∧ i ∉ dirtying := by
  -- interning one more name only adds a source file: the ids kept so far stay what they were
  have step : ∀ (e1 : Env) (acc : List Nat) (c : Bytes),
      (Ext e.g e1.g ∧ (UniqueNames e.g → UniqueNames e1.g) ∧
        ∀ i ∈ acc, i < e1.g.files.length ∧ CanonId e1.g i ∧ i ∉ dirtying) →
      Ext e.g (intern e1 c).1.g ∧ (UniqueNames e.g → UniqueNames (intern e1 c).1.g) ∧
        ∀ i ∈ acc, i < (intern e1 c).1.g.files.length ∧ CanonId (intern e1 c).1.g i ∧ i ∉ dirtying := by
    intro e1 acc c ⟨h1, h2, h3⟩
    have hx := (idFromCanonical_spec e1.g c).1
    exact ⟨h1.trans hx, fun hu => idFromCanonical_unique e1.g c (h2 hu), fun i hi =>
      ⟨Nat.lt_of_lt_of_le (h3 i hi).1 hx.length_le, hx.canonId i (h3 i hi).1 (h3 i hi).2.1, (h3 i hi).2.2⟩⟩
  refine keepDeps_induct (P := fun e1 acc => Ext e.g e1.g ∧ (UniqueNames e.g → UniqueNames e1.g) ∧
      ∀ i ∈ acc, i < e1.g.files.length ∧ CanonId e1.g i ∧ i ∉ dirtying)
    dirtying step (fun e1 acc c hP _ hnd => ?_) ns e acc ⟨Ext.refl _, id, h⟩
  obtain ⟨h1, h2, h3⟩ := step e1 acc c hP
  refine ⟨h1, h2, fun i hi => ?_⟩
  rcases List.mem_append.mp hi with hi | hi
  · exact h3 i hi
  · rw [List.mem_singleton.mp hi]
    exact ⟨(idFromCanonical_spec e1.g c).2.2, idFromCanonical_canon e1.g c, hnd⟩

theorem mtimeOf_ext {e e' : Env} (hx : Ext e.g e'.g) (hfs : e'.fs = e.fs) (f : Nat) (hf : f < e.g.files.length) :
    mtimeOf e' f = mtimeOf e f := by
  unfold mtimeOf; rw [hfs, hx.fileName_old f hf]

/-- `recordFinished_spec` with what `keepDeps_ids` adds: the graph only gains source files, and
    the step's new list consists of valid canonical ids outside its dirtying inputs. -/
theorem recordFinished_gen (e : Env) (b : Nat) (bm : BuildM) (hb : buildOf e.g b = some bm) (deps : Option (List Bytes)) :
    Ext e.g (recordFinished e b deps).g ∧ (recordFinished e b deps).fs = e.fs ∧
    (recordFinished e b deps).hashes = e.hashes ∧ (recordFinished e b deps).clock = e.clock ∧
    (∀ x, x ≠ b → discOf (recordFinished e b deps) x = discOf e x) ∧
    (∀ f ∈ discOf (recordFinished e b deps) b,
      f < (recordFinished e b deps).g.files.length ∧ CanonId (recordFinished e b deps).g f ∧ f ∉ bm.dirtying) ∧
    (∀ f m, assocGet (recordFinished e b deps).cache f = some m →
      assocGet e.cache f = some m ∨ m = mtimeOf (recordFinished e b deps) f) ∧
    (∀ f ∈ bm.dirtying ++ discOf (recordFinished e b deps) b ++ bm.outs,
      assocGet (recordFinished e b deps).cache f = some (mtimeOf (recordFinished e b deps) f)) ∧
    ((recordFinished e b deps).log = e.log ∨
      (recordFinished e b deps).log = e.log ++
        [⟨bm.outs.map (fileName (recordFinished e b deps).g),
          (discOf (recordFinished e b deps) b).map (fileName (recordFinished e b deps).g),
          manifestOf (recordFinished e b deps) bm b⟩]) ∧
    ((∀ f ∈ bm.dirtying ++ discOf (recordFinished e b deps) b ++ bm.outs,
        (mtimeOf (recordFinished e b deps) f).isSome = true) →
      (recordFinished e b deps).log = e.log ++
        [⟨bm.outs.map (fileName (recordFinished e b deps).g),
          (discOf (recordFinished e b deps) b).map (fileName (recordFinished e b deps).g),
          manifestOf (recordFinished e b deps) bm b⟩]) := by
  obtain ⟨r1, r2, r3, r4, r5, r6, r7, r8⟩ := recordFinished_spec e b bm hb deps
  obtain ⟨kx, _, kids⟩ := keepDeps_ids bm.dirtying (deps.getD []) e [] (by simp)
  rw [← r1] at kx kids
  rw [← r5] at kids
  refine ⟨kx, r2, r3, r4, r6, kids, fun f m hm => ?_, fun f hf => by rw [r7, if_pos hf], ?_, fun hall => by rw [r8, if_pos hall]⟩
  · rw [r7] at hm
    split at hm
    · exact Or.inr (Option.some.inj hm).symm
    · exact Or.inl hm
  · rw [r8]; split
    · exact Or.inr rfl
    · exact Or.inl rfl

/-- Whatever `b` is, `record_finished` only adds source files to the graph and only replaces the
    list of `b`. -/
theorem recordFinished_ext (e : Env) (b : Nat) (deps : Option (List Bytes)) :
    Ext e.g (recordFinished e b deps).g ∧ ∀ x, x ≠ b → discOf (recordFinished e b deps) x = discOf e x := by
  cases hb : buildOf e.g b with
  | none =>
    rw [recordFinished_none hb]; exact ⟨Ext.refl _, fun _ _ => rfl⟩
  | some bm =>
    obtain ⟨r1, _, _, _, r5, _⟩ := recordFinished_gen e b bm hb deps
    exact ⟨r1, r5⟩

theorem recordFinished_unique (e : Env) (b : Nat) (deps : Option (List Bytes)) (h : UniqueNames e.g) :
    UniqueNames (recordFinished e b deps).g := by
  cases hb : buildOf e.g b with
  | none =>
    rw [recordFinished_none hb]; exact h
  | some bm =>
    rw [(recordFinished_spec e b bm hb deps).1]
    exact (keepDeps_ids bm.dirtying (deps.getD []) e [] (by simp)).2.1 h

end N2V.Work
