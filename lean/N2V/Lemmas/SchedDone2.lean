/-
  The joint invariant of Lemmas/SchedDone at every ordinary end of `Work::run` and of an
  invocation — success AND failure (a command failed, the budget ran out, an interruption).
-/
import N2V.Lemmas.SchedDone
namespace N2V.Sched

theorem runLoop_done_ok {E : Type} {g : Graph} {par : Nat} (c : Choices E) (J : S → E → Prop)
    (spec : DoneSpec g c J) (fuel : Nat) : ∀ (s : S) (e : E) (perms : List (List Nat)) (fin : List (Nat × Term)),
    Inv g par s → J s e → ∀ ok : Bool, (runLoop g par c fuel s e perms fin).result = .ok ok →
    J (runLoop g par c fuel s e perms fin).s (runLoop g par c fuel s e perms fin).e :=
  fun s e perms fin inv j _ h => (runLoop_spec fuel s e perms fin).done spec inv j h

end N2V.Sched

namespace N2V.Run
open N2V N2V.Sched

/-- The joint invariant at the end of `run::build` when it reports success OR an ordinary failure
    (a command failed / the `-k` budget ran out / an interruption), without a reload. -/
theorem build_done_or_failed {E : Type} {g : Graph} (gok : GraphOK g) (a : Args) (c : Choices E) (J : S → E → Prop)
    (spec : DoneSpec g c J) (e : E) (hj : J (fresh a) e)
    (h : (∃ n, (build g a c e).2.2 = .done n) ∨ (build g a c e).2.2 = .failed) : J (build g a c e).1 (build g a c e).2.1 :=
  (build_runs g a c e).done gok spec (fresh_inv g a) hj h

/-- The same for the part of `run::build` that follows a reload (a fresh `Work` on the reloaded
    graph). -/
theorem buildReloaded_done_or_failed {E : Type} {g : Graph} (gok : GraphOK g) (a : Args) (c : Choices E) (J : S → E → Prop)
    (spec : DoneSpec g c J) (e : E) (hj : J (fresh a) e) (n0 : Nat)
    (h : (∃ n, (buildReloaded g a c e n0).2.2 = .done n) ∨ (buildReloaded g a c e n0).2.2 = .failed) :
    J (buildReloaded g a c e n0).1 (buildReloaded g a c e n0).2.1 :=
  (buildReloaded_runs g a c e n0).done gok spec (fresh_inv g a) hj h

end N2V.Run
