/-
  `run::build` as a transition system: its moves (`Move`) are "a requested file is wanted" and
  the moves of `Work::run` (Lemmas/SchedSteps); `Stops` lists how it ends and what it returns;
  `Runs` is a sequence of moves followed by one stop.  `build_runs` / `buildReloaded_runs` are the
  case analyses of `build` / `phase2` / `wantAll` / `wantTargets` on which the invariants of
  whole invocations rest: what every `want` of a requested file and every `Step` keeps
  (`Moves.induct`, `Moves.rel`) holds when the invocation stops.
-/
import N2V.Lemmas.SchedWantInv
import N2V.Model.Run
namespace N2V.Run
open N2V N2V.Sched
variable {E : Type}

/-- The files an invocation asks for: the manifest; the command-line names that resolve, else the
    `default` statements, else every file. -/
def Requested (g : Graph) (a : Args) (f : Nat) : Prop :=
  f = a.manifest ∨ (∃ n ∈ a.targets, lookupM g a n = .ok (some f)) ∨
  (a.targets = [] ∧ f ∈ a.defaults) ∨ (a.targets = [] ∧ a.defaults = [] ∧ f < g.nFiles)

/-- What the second phase of `run::build` wants: the command-line names, else the `default`
    statements, else every file but the manifest. -/
def wantedOf (g : Graph) (a : Args) (s : S) : WR Unit :=
  if !a.targets.isEmpty then wantTargets g a s a.targets
  else if !a.defaults.isEmpty then wantAll g s a.defaults
  else wantAll g s ((List.range g.nFiles).filter (· ≠ a.manifest))

theorem phase2_eq (g : Graph) (a : Args) (c : Choices E) (s2 : S) (e : E) (perms : List (List Nat))
    (fin : List (Nat × Term)) (tb : Nat) :
    phase2 g a c s2 e perms fin tb =
      match wantedOf g a s2 with
      | .ok _ s3 =>
        let r2 := runLoop g a.par c (runFuel g) s3 e perms fin
        match r2.result with
        | .ok true => (r2.s, r2.e, .done (tb + r2.s.tasksRun))
        | r => (r2.s, r2.e, ofRun r)
      | .err m s3 => (s3, e, .err m)
      | .bad m => (s2, e, .panic m) := rfl

/-- One move of an invocation: a requested file is wanted, or `Work::run` makes a move. -/
inductive Move (g : Graph) (a : Args) (c : Choices E) : S → E → S → E → Prop
  | want {s f s'} (e) (hf : Requested g a f) (h : want g s f = .ok () s') : Move g a c s e s' e
  | step {s e s' e'} (h : Step g a.par c s e s' e') : Move g a c s e s' e'

inductive Moves (g : Graph) (a : Args) (c : Choices E) : S → E → S → E → Prop
  | refl (s e) : Moves g a c s e s e
  | head {s e s1 e1 s2 e2} : Move g a c s e s1 e1 → Moves g a c s1 e1 s2 e2 → Moves g a c s e s2 e2

variable {g : Graph} {a : Args} {c : Choices E}

theorem Moves.trans {s e s1 e1 s2 e2} (h1 : Moves g a c s e s1 e1) (h2 : Moves g a c s1 e1 s2 e2) :
    Moves g a c s e s2 e2 := by
  induction h1 with
  | refl => exact h2
  | head m _ ih => exact .head m (ih h2)

theorem Moves.of_steps {s e s' e'} (h : Steps g a.par c s e s' e') : Moves g a c s e s' e' := by
  induction h with
  | refl => exact .refl _ _
  | head st _ ih => exact .head (.step st) ih

theorem Move.inv (gok : GraphOK g) {s e s' e'} (h : Move g a c s e s' e') (inv : Inv g a.par s) :
    Inv g a.par s' := by
  cases h with
  | want _ _ h => exact (want_inv gok _ _ _ inv h).inv
  | step h => exact h.inv inv

theorem Moves.inv (gok : GraphOK g) {s e s' e'} (h : Moves g a c s e s' e') (inv : Inv g a.par s) :
    Inv g a.par s' := by
  induction h with
  | refl => exact inv
  | head m _ ih => exact ih (m.inv gok inv)

/-- A preorder on states that contains every `want` of a requested file and every move of
    `Work::run` contains every invocation. -/
theorem Moves.rel (gok : GraphOK g) {R : S → S → Prop} (refl : ∀ s, R s s)
    (trans : ∀ {a b c}, R a b → R b c → R a c) {s e s' e'} (h : Moves g a c s e s' e')
    (inv : Inv g a.par s)
    (want : ∀ {s f s'}, Inv g a.par s → Requested g a f → want g s f = .ok () s' → R s s')
    (step : ∀ {s e s' e'}, Inv g a.par s → Step g a.par c s e s' e' → R s s') : R s s' := by
  induction h with
  | refl => exact refl _
  | head m _ ih =>
    refine trans ?_ (ih (m.inv gok inv))
    cases m with
    | want _ hf h => exact want inv hf h
    | step h => exact step inv h

/-- A property of configurations kept by wanting a requested file and by every move of
    `Work::run`, from states satisfying the scheduler invariant, holds along the invocation. -/
theorem Moves.induct (gok : GraphOK g) {P : S → E → Prop} {s e s' e'} (h : Moves g a c s e s' e')
    (inv : Inv g a.par s) (hP : P s e)
    (want : ∀ {s f s'} e, Inv g a.par s → P s e → Requested g a f → want g s f = .ok () s' → P s' e)
    (step : ∀ {s e s' e'}, Inv g a.par s → P s e → Step g a.par c s e s' e' → P s' e') : P s' e' := by
  induction h with
  | refl => exact hP
  | head m _ ih =>
    refine ih (m.inv gok inv) ?_
    cases m with
    | want _ hf h => exact want _ inv hP hf h
    | step h => exact step inv hP h

/-- How an invocation stops in the configuration it has reached, and what it returns. `tb` is
    the number of tasks counted before (`buildReloaded`). -/
inductive Stops (g : Graph) (a : Args) (c : Choices E) (tb : Nat) : S → E → S × E × Outcome → Prop
  | wantErr {s f m s'} (e) (hf : Requested g a f) (h : want g s f = .err m s') :
      Stops g a c tb s e (s', e, .err m)
  | unknown {s} (e) {n} (hn : n ∈ a.targets) (hl : lookupM g a n = .ok none) (ha : a.adopt = false) :
      Stops g a c tb s e (s, e, .err ("unknown path requested: " ++ stringOfBytes n))
  | panic (s e m) : Stops g a c tb s e (s, e, .panic m)
  | reload {s e s' e'} (h : Ends g a.par c s e s' e' (.ok true)) (hn : s'.tasksRun ≠ 0) :
      Stops g a c tb s e (s', e', .reload s'.tasksRun)
  | done {s e s' e'} (h : Ends g a.par c s e s' e' (.ok true)) :
      Stops g a c tb s e (s', e', .done (tb + s'.tasksRun))
  | other {s e s' e' r} (h : Ends g a.par c s e s' e' r) (hr : r ≠ .ok true) :
      Stops g a c tb s e (s', e', ofRun r)

theorem ofRun_ne_done (r : RunResult) (n : Nat) : ofRun r ≠ .done n := by cases r <;> simp [ofRun]
theorem ofRun_ne_reload (r : RunResult) (n : Nat) : ofRun r ≠ .reload n := by cases r <;> simp [ofRun]

theorem ofRun_failed {r : RunResult} (h : ofRun r = .failed) : ∃ b, r = .ok b := by
  cases r <;> simp [ofRun] at h
  exact ⟨_, rfl⟩

/-- Success (or a reload) is returned only from the head of the run loop: the state returned is
    the state reached, with nothing pending and nothing failed. -/
theorem Stops.ok {tb : Nat} {s : S} {e : E} {r : S × E × Outcome} {n : Nat} (h : Stops g a c tb s e r)
    (hr : r.2.2 = .done n ∨ r.2.2 = .reload n) :
    r.1 = s ∧ r.2.1 = e ∧ s.pending ≤ 0 ∧ s.tasksFailed = 0 := by
  cases h with
  | wantErr | unknown | panic => simp at hr
  | reload h | done h => obtain ⟨rfl, rfl, hp, hf⟩ := h.ok_true; exact ⟨rfl, rfl, hp, hf⟩
  | other => exact absurd hr (by simp [ofRun_ne_done, ofRun_ne_reload])

/-- Where a list of `want`s ends: all succeeded, or one failed after the earlier ones succeeded. -/
def WantsPost (g : Graph) (a : Args) (c : Choices E) (s : S) (e : E) : WR Unit → Prop
  | .ok _ s' => Moves g a c s e s' e
  | .err m s' => ∃ s1, Moves g a c s e s1 e ∧
      ((∃ f, Requested g a f ∧ want g s1 f = .err m s') ∨
       (s' = s1 ∧ a.adopt = false ∧ ∃ n ∈ a.targets, lookupM g a n = .ok none ∧
          m = "unknown path requested: " ++ stringOfBytes n))
  | .bad _ => True

theorem WantsPost.head {s e s1 f} (hf : Requested g a f) (h : want g s f = .ok () s1) :
    ∀ {w}, WantsPost g a c s1 e w → WantsPost g a c s e w
  | .ok _ _, hw => Moves.head (Move.want e hf h) hw
  | .err _ _, ⟨s2, hm, hw⟩ => ⟨s2, Moves.head (Move.want e hf h) hm, hw⟩
  | .bad _, _ => trivial

theorem wantAll_post (e : E) (fs : List Nat) (hfs : ∀ f ∈ fs, Requested g a f) (s : S) :
    WantsPost g a c s e (wantAll g s fs) := by
  induction fs generalizing s with
  | nil => exact .refl _ _
  | cons f fs ih =>
    have hf := hfs f (by simp)
    unfold wantAll
    split
    · rename_i s' h; exact WantsPost.head hf h (ih (fun x hx => hfs x (by simp [hx])) s')
    · rename_i r hne
      cases h : want g s f with
      | ok u s' => exact absurd h (hne u s')
      | err m s' => exact ⟨s, .refl _ _, .inl ⟨f, hf, h⟩⟩
      | bad m => trivial

theorem wantTargets_post (e : E) (ns : List Bytes) (hns : ∀ n ∈ ns, n ∈ a.targets) (s : S) :
    WantsPost g a c s e (wantTargets g a s ns) := by
  induction ns generalizing s with
  | nil => exact .refl _ _
  | cons n ns ih =>
    have ih' := ih (fun x hx => hns x (by simp [hx]))
    unfold wantTargets
    split
    · rename_i hl
      split
      · exact ih' s
      · rename_i ha
        exact ⟨s, .refl _ _, .inr ⟨rfl, by simpa using ha, n, hns n (by simp), hl, rfl⟩⟩
    · rename_i t hl
      split
      · exact ih' s
      · have hf : Requested g a t := .inr (.inl ⟨n, hns n (by simp), hl⟩)
        split
        · rename_i s' h; exact WantsPost.head hf h (ih' s')
        · rename_i r hne
          cases h : want g s t with
          | ok u s' => exact absurd h (hne u s')
          | err m s' => exact ⟨s, .refl _ _, .inl ⟨t, hf, h⟩⟩
          | bad m => trivial
    · trivial
    · trivial

theorem wantedOf_post (e : E) (s : S) : WantsPost g a c s e (wantedOf g a s) := by
  unfold wantedOf
  split
  · exact wantTargets_post e _ (fun _ h => h) s
  · rename_i ht
    have hte : a.targets = [] := by cases h : a.targets with | nil => rfl | cons _ _ => simp [h] at ht
    split
    · exact wantAll_post e _ (fun f hf => .inr (.inr (.inl ⟨hte, hf⟩))) s
    · rename_i hd
      have hde : a.defaults = [] := by cases h : a.defaults with | nil => rfl | cons _ _ => simp [h] at hd
      refine wantAll_post e _ (fun f hf => .inr (.inr (.inr ⟨hte, hde, ?_⟩))) s
      simp only [List.mem_filter, List.mem_range] at hf; exact hf.1

/-- An invocation from `(s, e)` returning `r`. -/
def Runs (g : Graph) (a : Args) (c : Choices E) (tb : Nat) (s : S) (e : E) (r : S × E × Outcome) : Prop :=
  ∃ s' e', Moves g a c s e s' e' ∧ Stops g a c tb s' e' r

theorem fresh_inv (g : Graph) (a : Args) : Inv g a.par (fresh a) :=
  (init_inv g a.par a.pools a.failuresLeft).congr rfl rfl rfl rfl rfl rfl

theorem phase2_runs (s2 : S) (e : E) (perms : List (List Nat)) (fin : List (Nat × Term)) (tb : Nat) :
    Runs g a c tb s2 e (phase2 g a c s2 e perms fin tb) := by
  rw [phase2_eq]
  have hw := wantedOf_post (g := g) (a := a) (c := c) e s2
  split
  · rename_i s3 h
    rw [h] at hw
    obtain ⟨s', e', hs, he⟩ := runLoop_spec (g := g) (par := a.par) (c := c) (runFuel g) s3 e perms fin
    refine ⟨s', e', hw.trans (.of_steps hs), ?_⟩
    simp only []
    split
    · rename_i hr; rw [hr] at he; exact .done he
    · rename_i hr; exact .other he hr
  · rename_i m s3 h
    rw [h] at hw
    obtain ⟨s1, hm, hw | ⟨rfl, ha, n, hn, hl, rfl⟩⟩ := hw
    · obtain ⟨f, hf, hw⟩ := hw; exact ⟨s1, e, hm, .wantErr e hf hw⟩
    · exact ⟨s3, e, hm, .unknown e hn hl ha⟩
  · exact ⟨s2, e, .refl _ _, .panic _ _ _⟩

/-- **`run::build` is a sequence of moves — requested files wanted, moves of `Work::run` —
    followed by one of the ways it stops.** -/
theorem build_runs (g : Graph) (a : Args) (c : Choices E) (e : E) :
    Runs g a c 0 (fresh a) e (build g a c e) := by
  unfold build
  simp only []
  split
  · rename_i s1 h
    have m1 : Moves g a c (fresh a) e s1 e := .head (.want e (.inl rfl) h) (.refl _ _)
    obtain ⟨s', e', hs, he⟩ :=
      runLoop_spec (g := g) (par := a.par) (c := c) (runFuel g) s1 e c.perms c.finishes
    have m2 := m1.trans (.of_steps hs)
    split
    · rename_i hr
      rw [hr] at he
      split
      · rename_i hn; exact ⟨s', e', m2, .reload he hn⟩
      · obtain ⟨rfl, rfl, -⟩ := he.ok_true
        obtain ⟨s2, e2, hm, hst⟩ := phase2_runs (g := g) (a := a) (c := c) _ _ _ _ 0
        exact ⟨s2, e2, m2.trans hm, hst⟩
    · rename_i hr; exact ⟨s', e', m2, .other he hr⟩
  · rename_i m s1 h; exact ⟨_, e, .refl _ _, .wantErr e (.inl rfl) h⟩
  · exact ⟨_, e, .refl _ _, .panic _ _ _⟩

theorem buildReloaded_runs (g : Graph) (a : Args) (c : Choices E) (e : E) (tb : Nat) :
    Runs g a c tb (fresh a) e (buildReloaded g a c e tb) :=
  phase2_runs _ _ _ _ _

end N2V.Run
