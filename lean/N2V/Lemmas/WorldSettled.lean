/-
  The round trip (projects without discovered dependencies): a successful invocation leaves a
  world in which an immediate second invocation does nothing.
-/
import N2V.Lemmas.WorkSettled
import N2V.Lemmas.WorldSettledD
namespace N2V.Work
open N2V N2V.Load N2V.Sched N2V.Run

theorem build_noDisc (e0 : Env) (plain : Plain e0.g) (hnd0 : ∀ b, discOf e0 b = []) (a : Args) (adopt : Bool)
    (perms : List (List Nat)) (fin : List (Nat × Term)) :
    NoDisc e0 (build (schedGraph e0.g) a (choices adopt perms fin) e0).2.1 :=
  build_env _ a (choices adopt perms fin) (NoDisc e0) (fun _ b h => h.check b) (fun _ b h => h.success plain b)
    (fun _ b h => h.record b) e0 ⟨rfl, hnd0, fun r hr => by simp [newLog] at hr⟩

/-- **What is Done is settled, at the end of a successful `run::build`** (no discovered
    dependencies, no reload): for every Done non-phony step whose named files exist, the signature
    the next start-up will attach to it is the manifest of the files as they are now. -/
theorem build_done_js (e0 : Env) (inv0 : GInv e0.g) (plain : Plain e0.g) (hnd0 : ∀ b, discOf e0 b = [])
    (hc0 : e0.cache = []) (a : Args) (adopt : Bool) (perms : List (List Nat)) (fin : List (Nat × Term)) (n : Nat)
    (h : (build (schedGraph e0.g) a (choices adopt perms fin) e0).2.2 = .done n) :
    JS e0 (build (schedGraph e0.g) a (choices adopt perms fin) e0).1
      (build (schedGraph e0.g) a (choices adopt perms fin) e0).2.1 := by
  have hids0 : ∀ b, ∀ f ∈ discOf e0 b, f < e0.g.files.length := fun b f hf => by rw [hnd0 b] at hf; cases hf
  have nd := build_noDisc e0 plain hnd0 a adopt perms fin
  exact JS.of_core (build_done (schedGraph_ok e0.g inv0).1 a _ _ (jc_spec e0 inv0 hids0 plain.plainD adopt perms fin) e0
    (fun _ => jc_initial e0 a inv0 hids0 hc0) n h (nd.goodD _)) nd

/-- **A successful build followed by the same build: the second does nothing.**  For a project
    without discovered dependencies (`Plain`: no depfile / `deps`, no rewritten inputs, every step
    has an output; log without dependency lists): if an invocation succeeds without reloading the manifest, the files the
    steps it wanted name exist afterwards and the manifest still loads to the same graph, then the
    next invocation with the same arguments leaves the world as it is, starts no command, and
    reports 0 tasks — for every scheduling behaviour of the environment in either invocation. -/
theorem second_build_does_nothing (w : World) (a : InvArgs) (perms : List (List Nat)) (fin : List (Nat × Term))
    (l : Loader) (e0 : Env) (hl : loadEnv w a.manifestName = .ok (l, e0))
    (plain : Plain e0.g) (hlog : ∀ r ∈ w.log, r.deps = [])
    (hpar : 0 < a.par) (n : Nat)
    (hdone : (build (schedGraph e0.g) (argsOf l a) (choices a.adopt perms fin) e0).2.2 = .done n)
    (hpresent : ∀ b bm, Wanted (schedGraph e0.g) (argsOf l a) b → buildOf e0.g b = some bm → bm.cmdline.isNone = false →
      AllPresent (build (schedGraph e0.g) (argsOf l a) (choices a.adopt perms fin) e0).2.1 bm)
    (w' : World)
    (hw' : w' = { fs := (build (schedGraph e0.g) (argsOf l a) (choices a.adopt perms fin) e0).2.1.fs,
                  clock := (build (schedGraph e0.g) (argsOf l a) (choices a.adopt perms fin) e0).2.1.clock,
                  log := (build (schedGraph e0.g) (argsOf l a) (choices a.adopt perms fin) e0).2.1.log })
    (e0' : Env) (hl' : loadEnv w' a.manifestName = .ok (l, e0'))
    (o1 o2 : List (List Nat) × List (Nat × Term)) :
    (invoke w' a o1 o2).1 = w' ∧ commandEvents (invoke w' a o1 o2).2.2 = [] ∧
    (∀ k, (invoke w' a o1 o2).2.1 = .done k → k = 0) := by
  obtain ⟨_, hlog0⟩ := (loadEnv_frame w a.manifestName l e0 hl).2.2
  obtain ⟨_, l0⟩ := loadEnv_loaded0 w a.manifestName l e0 hl
  -- nothing is remembered from a log without dependency lists
  have hnd0 : ∀ b, discOf e0 b = [] := by
    intro b
    cases hl0 : lastRec e0.g b e0.log none with
    | none => exact (l0.norec b hl0).2
    | some r =>
      have hr : r.deps = [] := hlog r (by
        rw [← hlog0]; exact (lastRec_mem _ _ _ _ _ hl0).resolve_right (fun h => by cases h))
      exact List.map_eq_nil_iff.mp ((l0.rem b r hl0).1.trans hr)
  have nd := build_noDisc e0 plain hnd0 (argsOf l a) a.adopt perms fin
  exact second_build_does_nothing_deps w a perms fin l e0 hl plain.plainD hpar n hdone (nd.goodD _)
    (fun b bm hW hb hnp f hf => hpresent b bm hW hb hnp f (by rw [nd.nodisc b] at hf; simpa using hf))
    w' hw' e0' hl' o1 o2

end N2V.Work
