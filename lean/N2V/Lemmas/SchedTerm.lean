/-
  Termination of `Work::run`: the model's fuel is never the reason a run ends.  Every round of
  the outer loop that goes on has moved some build forward in
  Unknown < Want < Ready < Queued < Running < Done < Failed (the sum of the state codes, `msum`,
  grows and is at most six per build), and the inner loops (`pop_queued`/start, `pop_ready`) each
  consume a build of a finite stock.
-/
import N2V.Lemmas.SchedMoves
namespace N2V.Sched

def msum : Nat → (Nat → St) → Nat
  | 0, _ => 0
  | n + 1, st => msum n st + (st n).code

theorem msum_le (n : Nat) (st : Nat → St) : msum n st ≤ 6 * n := by
  induction n with
  | zero => simp [msum]
  | succ n ih =>
    have : (st n).code ≤ 6 := by cases st n <;> simp [St.code]
    rw [msum]; omega

theorem msum_mono (n : Nat) (st st' : Nat → St) (h : ∀ b, b < n → (st b).code ≤ (st' b).code) :
    msum n st ≤ msum n st' := by
  induction n with
  | zero => exact Nat.le_refl _
  | succ n ih =>
    have := ih (fun b hb => h b (by omega))
    have := h n (by omega)
    rw [msum, msum]; omega

/-- Builds only move forward, and `id` by at least `k`: the sum grows by at least `k`. -/
theorem msum_gain (n : Nat) (st st' : Nat → St) (id k : Nat) (hid : id < n)
    (h : ∀ b, b < n → (st b).code ≤ (st' b).code) (hk : (st id).code + k ≤ (st' id).code) :
    msum n st + k ≤ msum n st' := by
  induction n with
  | zero => omega
  | succ n ih =>
    rw [msum, msum]
    by_cases e : id = n
    · subst e
      have := msum_mono id st st' (fun b hb => h b (by omega))
      omega
    · have := ih (by omega) (fun b hb => h b (by omega))
      have := h n (by omega)
      omega

variable {g : Graph} {par : Nat}

theorem set_msum {s s' : S} {id : Nat} {new : St} (k : Nat) (h : set g s id new = .ok s')
    (hid : id < g.nBuilds) (hk : (s.st id).code + k ≤ new.code) :
    msum g.nBuilds s.st + k ≤ msum g.nBuilds s'.st := by
  refine msum_gain _ _ _ id k hid (fun b _ => ?_) (by rw [set_st_self h]; exact hk)
  by_cases e : b = id
  · subst e; rw [set_st_self h]; omega
  · rw [set_st_ne h e]; exact Nat.le_refl _

theorem set_cnt {s s' : S} {id : Nat} {new : St} (P : St → Bool) (h : set g s id new = .ok s')
    (hid : id < g.nBuilds) :
    (cnt g.nBuilds (fun b => P (s'.st b)) : Int) =
      cnt g.nBuilds (fun b => P (s.st b)) - (if P (s.st id) then 1 else 0) + (if P new then 1 else 0) := by
  rw [set_st h]; exact cnt_upd g.nBuilds s.st id new hid (fun x _ => P x)

/-- The stock of the start loop, and that of the ready loop. -/
def cntQ (g : Graph) (s : S) : Nat := cnt g.nBuilds (fun b => s.st b == .queued)
def cntWR (g : Graph) (s : S) : Nat := cnt g.nBuilds (fun b => s.st b == .want || s.st b == .ready)

theorem readyDependents_term {s s' : S} {id : Nat} {perm : List Nat}
    (h : readyDependents g s id perm = .ok s') (hid : id < g.nBuilds) :
    (s.st id = .ready ∨ s.st id = .running → msum g.nBuilds s.st + 1 ≤ msum g.nBuilds s'.st) ∧
    (s.st id = .ready → cntWR g s' + 1 = cntWR g s) := by
  have st := readyDependents_st h
  have hd : s'.st id = .done := by
    rcases st id with ⟨-, e⟩ | ⟨e, -⟩ | ⟨e, -⟩
    · exact e
    · exact absurd rfl e
    · exact absurd rfl e
  constructor
  · intro hst
    refine msum_gain _ _ _ id 1 hid (fun b _ => ?_) (by rcases hst with e | e <;> rw [hd, e] <;> decide)
    rcases st b with ⟨rfl, e⟩ | ⟨-, e1, e2⟩ | ⟨-, e⟩
    · rcases hst with e0 | e0 <;> rw [e, e0] <;> decide
    · rw [e1, e2]; decide
    · rw [e]; exact Nat.le_refl _
  · intro hst
    have := cnt_update g.nBuilds (fun b => s.st b == .want || s.st b == .ready)
      (fun b => s'.st b == .want || s'.st b == .ready) id hid fun b hb => by
        rcases st b with ⟨e, -⟩ | ⟨-, e1, e2⟩ | ⟨-, e⟩
        · exact absurd e hb
        · simp [e1, e2]
        · simp only [e]
    simp [hst, hd] at this
    unfold cntWR; omega

theorem enqueueRun_term {s s1 : S} {id : Nat} (h : enqueueRun g s id = .inl s1)
    (hst : s.st id = .ready) (hid : id < g.nBuilds) :
    msum g.nBuilds s.st + 1 ≤ msum g.nBuilds s1.st ∧ cntWR g s1 + 1 = cntWR g s := by
  obtain ⟨s2, pools, hs, -, rfl⟩ := enqueueRun_inl h
  have hm := set_msum 1 hs hid (by rw [hst]; decide)
  have hc := set_cnt (fun x => x == .want || x == .ready) hs hid
  simp [hst] at hc
  exact ⟨hm, show cntWR g s2 + 1 = cntWR g s by unfold cntWR; omega⟩

theorem start_term {s s1 : S} {id : Nat} {pools : List Pool} (inv : Inv g par s)
    (hpop : popQueued s.pools = some (id, pools)) (h : set g { s with pools := pools } id .running = .ok s1) :
    msum g.nBuilds s.st + 1 ≤ msum g.nBuilds s1.st ∧ cntQ g s1 + 1 = cntQ g s := by
  have hstid : s.st id = .queued := inv.popped_queued hpop
  have hid : id < g.nBuilds := inv.valid id (by rw [hstid]; simp)
  have hm := set_msum 1 h hid (by show (s.st id).code + 1 ≤ _; rw [hstid]; decide)
  have hc := set_cnt (· == .queued) h hid
  simp [hstid] at hc
  exact ⟨hm, show cntQ g s1 + 1 = cntQ g s by unfold cntQ; omega⟩

/-- From measure `m` and progress flag `p` to the state `s'` and flag `p'`: no ground lost, and
    some gained if progress is newly reported. -/
def Gained (g : Graph) (m : Nat) (p : Bool) (s' : S) (p' : Bool) : Prop :=
  m ≤ msum g.nBuilds s'.st ∧ (p = false → p' = true → m + 1 ≤ msum g.nBuilds s'.st)

theorem Gained.refl (s : S) (p : Bool) : Gained g (msum g.nBuilds s.st) p s p :=
  ⟨Nat.le_refl _, fun a b => by rw [a] at b; cases b⟩

theorem Gained.head {m m' : Nat} {p p' : Bool} {s' : S} (hm : m + 1 ≤ m') (h : Gained g m' true s' p') :
    Gained g m p s' p' :=
  ⟨by have := h.1; omega, fun _ _ => by have := h.1; omega⟩

def StartTerm (g : Graph) (m : Nat) (p : Bool) : Sum (S × Bool) (S × RunResult) → Prop
  | .inl (s', p') => Gained g m p s' p'
  | .inr (_, r) => r ≠ .fuel

theorem StartTerm.head {m m' : Nat} {p : Bool} (hm : m + 1 ≤ m') :
    ∀ {x : Sum (S × Bool) (S × RunResult)}, StartTerm g m' true x → StartTerm g m p x
  | .inl _, h => Gained.head hm h
  | .inr _, h => h

/-- Each start takes one build out of the `Queued` stock: `nBuilds + 1` rounds always suffice. -/
theorem startLoop_term (fuel : Nat) (s : S) (p : Bool) (inv : Inv g par s) (hf : cntQ g s < fuel) :
    StartTerm g (msum g.nBuilds s.st) p (startLoop g par fuel s p) := by
  fun_induction startLoop g par fuel s p with
  | case1 => omega
  | case2 | case5 => exact Gained.refl _ _
  | case3 fuel s _ hlt id _ hpop s1 hs _ ih =>
    have hs := resToRun_inl hs
    obtain ⟨hm, hq⟩ := start_term inv hpop hs
    exact StartTerm.head hm (ih (start_inv inv hlt hpop hs) (by show cntQ g s1 < fuel; omega))
  | case4 _ _ _ _ _ _ _ _ hs => exact (resToRun_fault hs).2.ne_fuel

variable {E : Type} {c : Choices E}

def ReadyTerm (g : Graph) (m : Nat) (p : Bool) :
    Sum (S × E × List (List Nat) × Bool) (S × E × RunResult) → Prop
  | .inl (s', _, _, p') => Gained g m p s' p'
  | .inr (_, _, r) => r ≠ .fuel

theorem ReadyTerm.head {m m' : Nat} {p : Bool} (hm : m + 1 ≤ m') :
    ∀ {x : Sum (S × E × List (List Nat) × Bool) (S × E × RunResult)},
      ReadyTerm g m' true x → ReadyTerm g m p x
  | .inl _, h => Gained.head hm h
  | .inr _, h => h

/-- Each round of the ready loop takes one build out of the `Want`/`Ready` stock. -/
theorem readyLoop_term (fuel : Nat) (s : S) (e : E) (perms : List (List Nat)) (p : Bool)
    (inv : Inv g par s) (hf : cntWR g s < fuel) :
    ReadyTerm g (msum g.nBuilds s.st) p (readyLoop g c fuel s e perms p) := by
  fun_induction readyLoop g c fuel s e perms p with
  | case1 => omega
  | case2 => exact Gained.refl _ _
  | case3 => exact nofun
  | case4 _ s _ _ _ id _ hr _ _ _ _ _ s1 hs ih | case6 _ s _ _ _ id _ hr _ _ _ _ _ _ s1 hs ih =>
    have hs := resToRun_inl hs
    have hstid : s.st id = .ready := inv.readySt id (by simp [hr])
    have t := readyDependents_term hs (inv.valid id (by rw [hstid]; simp))
    have hc : cntWR g s1 + 1 = cntWR g s := t.2 hstid
    exact ReadyTerm.head (t.1 (.inl hstid)) (ih (clean_inv inv hr hs) (by omega))
  | case8 _ s _ _ _ id _ hr _ _ _ _ _ _ s1 hs ih =>
    have hstid : s.st id = .ready := inv.readySt id (by simp [hr])
    obtain ⟨hm, hc⟩ := enqueueRun_term hs hstid (inv.valid id (by rw [hstid]; simp))
    have hc : cntWR g s1 + 1 = cntWR g s := hc
    exact ReadyTerm.head hm (ih (enqueue_inv inv hr hs) (by omega))
  | case5 _ _ _ _ _ _ _ _ _ _ _ _ _ _ _ hs | case7 _ _ _ _ _ _ _ _ _ _ _ _ _ _ _ _ hs =>
    exact (resToRun_fault hs).2.ne_fuel
  | case9 _ _ _ _ _ _ _ _ _ _ _ _ _ _ _ _ hs =>
    unfold enqueueRun at hs
    split at hs
    · split at hs <;> cases hs
      exact nofun
    · exact (resToRun_fault hs).2.ne_fuel

/-- The two inner loops of a round, on their normal exits: the state reached satisfies the
    invariant, no ground is lost, and some is gained if either loop reports progress. -/
theorem innerLoops_term {s s1 s2 : S} {e e2 : E} {perms perms2 : List (List Nat)} {p1 p2 : Bool}
    (inv : Inv g par s)
    (h1 : startLoop g par (g.nBuilds + 1)
      { s with trace := Ev.update (countsList s.counts) :: s.trace } false = .inl (s1, p1))
    (h2 : readyLoop g c (g.nBuilds + 1) s1 e perms false = .inl (s2, e2, perms2, p2)) :
    Inv g par s2 ∧ Gained g (msum g.nBuilds s.st) false s2 (p1 || p2) := by
  have i0 := (Step.update (g := g) (par := par) (c := c) s e).inv inv
  have sp1 := startLoop_spec (g := g) (par := par) (c := c) e (g.nBuilds + 1)
    { s with trace := Ev.update (countsList s.counts) :: s.trace } false
  have t1 := startLoop_term (g.nBuilds + 1) _ false i0 (Nat.lt_succ_of_le (cnt_le _ _))
  rw [h1] at sp1 t1
  have i1 := sp1.1.inv i0
  have sp2 := readyLoop_spec (g := g) (par := par) (c := c) (g.nBuilds + 1) s1 e perms false
  have t2 := readyLoop_term (c := c) (g.nBuilds + 1) s1 e perms false i1 (Nat.lt_succ_of_le (cnt_le _ _))
  rw [h2] at sp2 t2
  refine ⟨sp2.1.inv i1, Nat.le_trans t1.1 t2.1, fun _ hpp => ?_⟩
  cases p1 with
  | true => exact Nat.le_trans (t1.2 rfl rfl) t2.1
  | false => exact Nat.le_trans (Nat.succ_le_succ t1.1) (t2.2 rfl (by simpa using hpp))

/-- **`Work::run` ends for a reason of its own** (success, failure, interruption, error, or the
    environment providing no further completion) — never because the model's fuel ran out: with
    `runFuel g = 6·(#builds + 1) + 2` rounds of the outer loop and `#builds + 1` of each inner loop. -/
theorem runLoop_no_fuel (c : Choices E) (fuel : Nat) (s : S) (e : E) (perms : List (List Nat))
    (fin : List (Nat × Term)) (inv : Inv g par s)
    (hf : 6 * g.nBuilds + 2 ≤ fuel + msum g.nBuilds s.st) :
    (runLoop g par c fuel s e perms fin).result ≠ .fuel := by
  fun_induction runLoop g par c fuel s e perms fin with
  | case1 s => have := msum_le g.nBuilds s.st; omega
  | case2 | case6 | case7 | case8 | case9 | case10 | case11 | case16 => exact nofun
  | case3 _ s e _ _ _ _ _ _ h1 =>
    have := startLoop_term (g.nBuilds + 1) _ false ((Step.update (c := c) s e).inv inv)
      (Nat.lt_succ_of_le (cnt_le _ _))
    rw [h1] at this; exact this
  | case4 _ s e perms _ _ _ s1 _ h1 _ _ _ h2 =>
    have sp1 := startLoop_spec (g := g) (par := par) (c := c) e (g.nBuilds + 1)
      { s with trace := Ev.update (countsList s.counts) :: s.trace } false
    rw [h1] at sp1
    have := readyLoop_term (c := c) (g.nBuilds + 1) s1 e perms false
      (sp1.1.inv ((Step.update (c := c) s e).inv inv)) (Nat.lt_succ_of_le (cnt_le _ _))
    rw [h2] at this; exact this
  | case5 _ _ _ _ _ _ _ _ _ h1 _ _ _ _ h2 hpp ih =>
    obtain ⟨i2, -, hm⟩ := innerLoops_term inv h1 h2
    have := hm rfl hpp
    exact ih i2 (by omega)
  | case12 _ _ _ _ _ _ _ _ h1 s2 _ _ _ h2 _ _ id _ hst _ _ _ _ _ _ hs ih
  | case14 _ _ _ _ _ _ _ _ h1 s2 _ _ _ h2 _ _ id _ hst _ _ _ hs ih =>
    obtain ⟨i2, hm, -⟩ := innerLoops_term inv h1 h2
    have hst := Classical.not_not.mp hst
    have hs := resToRun_inl hs
    have : msum g.nBuilds s2.st + 1 ≤ _ :=
      (set_msum 1 hs (i2.valid id (by rw [hst]; simp)) (by show (s2.st id).code + 1 ≤ _; rw [hst]; decide) :)
    exact ih (failed_inv _ i2 hst (by exact ⟨rfl, rfl, rfl, rfl, rfl⟩) (by exact rfl) hs) (by omega)
  | case17 _ _ _ _ _ _ _ _ h1 s2 _ _ _ h2 _ _ id _ hst _ _ _ hs ih =>
    obtain ⟨i2, hm, -⟩ := innerLoops_term inv h1 h2
    have hst := Classical.not_not.mp hst
    have hs := resToRun_inl hs
    have : msum g.nBuilds s2.st + 1 ≤ _ :=
      (readyDependents_term hs (i2.valid id (by rw [hst]; simp))).1 (.inr hst)
    exact ih (succeeded_inv _ i2 hst (by exact ⟨rfl, rfl, rfl, rfl, rfl⟩) (by exact rfl) hs) (by omega)
  | case13 _ _ _ _ _ _ _ _ _ _ _ _ _ _ _ _ _ _ _ _ _ _ _ _ _ _ hs
  | case15 _ _ _ _ _ _ _ _ _ _ _ _ _ _ _ _ _ _ _ _ _ _ _ hs
  | case18 _ _ _ _ _ _ _ _ _ _ _ _ _ _ _ _ _ _ _ _ _ _ _ hs => exact (resToRun_fault hs).2.ne_fuel

end N2V.Sched

namespace N2V.Run
open N2V N2V.Sched
variable {E : Type} {g : Graph}

theorem ofRun_fuel (r : RunResult) (h : ofRun r = .fuel) : r = .fuel := by
  cases r <;> simp [ofRun] at h ⊢

theorem phase2_no_fuel (gok : GraphOK g) (a : Args) (c : Choices E) (s2 : S) (e : E)
    (perms : List (List Nat)) (fin : List (Nat × Term)) (n0 : Nat) (inv : Inv g a.par s2) :
    (phase2 g a c s2 e perms fin n0).2.2 ≠ .fuel := by
  rw [phase2_eq]
  have hw := wantedOf_post (g := g) (a := a) (c := c) e s2
  split
  · rename_i s3 h
    rw [h] at hw
    have hr := runLoop_no_fuel c (runFuel g) s3 e perms fin (Moves.inv gok hw inv) (by unfold runFuel; omega)
    simp only []
    split
    · exact nofun
    · exact fun h => hr (ofRun_fuel _ h)
  · exact nofun
  · exact nofun

/-- **The run loops of `run::build` always end for a reason of their own**: the outcome "the
    model ran out of fuel" is unreachable in `Work::run` (both phases), for every graph, argument
    vector and environment behaviour. -/
theorem build_no_fuel (gok : GraphOK g) (a : Args) (c : Choices E) (e : E) :
    (build g a c e).2.2 ≠ .fuel := by
  unfold build
  simp only []
  split
  · rename_i s1 h
    have i1 := (want_inv gok _ _ _ (fresh_inv g a) h).inv
    have hr := runLoop_no_fuel c (runFuel g) s1 e c.perms c.finishes i1 (by unfold runFuel; omega)
    split
    · rename_i hres
      split
      · exact nofun
      · obtain ⟨s', e', hs, he⟩ :=
          runLoop_spec (g := g) (par := a.par) (c := c) (runFuel g) s1 e c.perms c.finishes
        rw [hres] at he
        exact phase2_no_fuel gok a c _ _ _ _ 0 (by rw [he.ok_true.1]; exact hs.inv i1)
    · exact fun h => hr (ofRun_fuel _ h)
  · exact nofun
  · exact nofun

theorem buildReloaded_no_fuel (gok : GraphOK g) (a : Args) (c : Choices E) (e : E) (n0 : Nat) :
    (buildReloaded g a c e n0).2.2 ≠ .fuel :=
  phase2_no_fuel gok a c _ _ _ _ n0 (fresh_inv g a)

end N2V.Run
