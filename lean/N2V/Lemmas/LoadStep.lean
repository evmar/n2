/-
  One round of the loader's statement loop: what `stmtLoop` does with the outcome of one
  `Parser::read`.  The effect of an item on the loader state is `applyItem`; the loop theorems
  (cross-reference invariant, totality, the file read as written) are inductions over these
  equations.
-/
import N2V.Model.Load
namespace N2V.Load
open N2V N2V.Scanner N2V.Eval N2V.Parse

/-- What `stmtLoop` does with one item.  `include` / `subninja` read the named file through `fs`
    and hand it to `sub` (the parser for one nested file); the including file continues with its
    own scope (`subninja`, and `include` in n2: finding F12) or with the scope the included file
    ended with (`include` under Ninja's rule, `inclExtends = true`). -/
def applyItem (inclExtends : Bool) (fs : Fs) (depth : Nat)
    (sub : Loader → Bytes → Bytes → StrMap → Nat → Except LoadErr (Loader × StrMap))
    (file : Bytes) (l : Loader) (vars : StrMap) : Item → Except LoadErr (Loader × StrMap)
  | .binding name val => .ok (l, Eval.insert vars name (evaluate [envOfStr vars] val))
  | .stmt (.default ps) =>
    match evalPaths l [envOfStr vars] ps with
    | .error e => .error e
    | .ok (l1, ids) => .ok ({ l1 with defaults := l1.defaults ++ ids }, vars)
  | .stmt (.rule name rvars) => .ok ({ l with rules := Eval.insert l.rules name rvars }, vars)
  | .stmt (.build b) =>
    match loaderAddBuild l file vars b with
    | .error e => .error e
    | .ok l1 => .ok (l1, vars)
  | .stmt (.pool name d) => .ok ({ l with pools := Eval.insert l.pools name d }, vars)
  | .stmt (.include p) =>
    match path l (evaluate [envOfStr vars] p) with
    | .error e => .error e
    | .ok (l1, id) =>
      match fs ((l1.graph.files[id]?.map (·.name)).getD []) with
      | none => .error (.other "read")
      | some content =>
        if depth ≥ MAX_INCLUDE_DEPTH then .error (.other "include nesting")
        else
          match sub l1 ((l1.graph.files[id]?.map (·.name)).getD []) content vars (depth + 1) with
          | .error e => .error e
          | .ok (l2, vars') => .ok (l2, afterInclude inclExtends vars vars')
  | .stmt (.subninja p) =>
    match path l (evaluate [envOfStr vars] p) with
    | .error e => .error e
    | .ok (l1, id) =>
      match fs ((l1.graph.files[id]?.map (·.name)).getD []) with
      | none => .error (.other "read")
      | some content =>
        if depth ≥ MAX_INCLUDE_DEPTH then .error (.other "include nesting")
        else
          match sub l1 ((l1.graph.files[id]?.map (·.name)).getD []) content vars (depth + 1) with
          | .error e => .error e
          | .ok (l2, _) => .ok (l2, vars)
  | .eof => .error (.other "eof is not a statement")

variable {ie : Bool} {fs : Fs} {file : Bytes} {depth : Nat}
  {sub : Loader → Bytes → Bytes → StrMap → Nat → Except LoadErr (Loader × StrMap)}
  {fuel : Nat} {l : Loader} {sc sc' : Scanner} {vars : StrMap}

theorem applyItem_nested_ok {p : EvalStr} {l' : Loader} {v' : StrMap} :
    (applyItem ie fs depth sub file l vars (.stmt (.include p)) = .ok (l', v') →
      ∃ l1 id content child, path l (evaluate [envOfStr vars] p) = .ok (l1, id) ∧
        sub l1 ((l1.graph.files[id]?.map (·.name)).getD []) content vars (depth + 1) = .ok (l', child) ∧
        v' = afterInclude ie vars child) ∧
    (applyItem ie fs depth sub file l vars (.stmt (.subninja p)) = .ok (l', v') →
      ∃ l1 id content child, path l (evaluate [envOfStr vars] p) = .ok (l1, id) ∧
        sub l1 ((l1.graph.files[id]?.map (·.name)).getD []) content vars (depth + 1) = .ok (l', child) ∧
        v' = vars) := by
  constructor <;>
  · intro h
    simp only [applyItem] at h
    split at h
    · cases h
    · rename_i l1 id hp
      split at h
      · cases h
      · rename_i content _
        split at h
        · cases h
        · split at h
          · cases h
          · rename_i l2 child hs
            cases h
            exact ⟨l1, id, content, child, hp, hs, rfl⟩

theorem stmtLoop_perr {msg : String} {ofs : Nat} (h : readItem (sc.buf.size + 1) sc = .perr msg ofs) :
    stmtLoop ie fs file depth sub (fuel + 1) l sc vars =
      .error (.parse file msg ofs (formatParseError sc.buf ofs)) := by
  unfold stmtLoop; rw [h]

theorem stmtLoop_eof (h : readItem (sc.buf.size + 1) sc = .ok .eof sc') :
    stmtLoop ie fs file depth sub (fuel + 1) l sc vars =
      .ok ({ l with builddir := Eval.lookup vars (bytesOfString "builddir") }, vars) := by
  unfold stmtLoop; rw [h]

theorem stmtLoop_item {it : Item} (h : readItem (sc.buf.size + 1) sc = .ok it sc') (hne : it ≠ .eof) :
    stmtLoop ie fs file depth sub (fuel + 1) l sc vars =
      match applyItem ie fs depth sub file l vars it with
      | .error e => .error e
      | .ok (l', vars') => stmtLoop ie fs file depth sub fuel l' sc' vars' := by
  conv => lhs; unfold stmtLoop
  rw [h]
  cases it with
  | eof => exact absurd rfl hne
  | binding name val => rfl
  | stmt st =>
    cases st with
    | rule name rvars => rfl
    | pool name d => rfl
    | build b => simp only [applyItem]; cases loaderAddBuild l file vars b <;> rfl
    | default ps =>
      simp only [applyItem]
      cases evalPaths l [envOfStr vars] ps <;> rfl
    | «include» p | subninja p =>
      simp only [applyItem]
      cases path l (evaluate [envOfStr vars] p) with
      | error e => rfl
      | ok r =>
        simp only []
        cases fs ((r.1.graph.files[r.2]?.map (·.name)).getD []) with
        | none => rfl
        | some content =>
          simp only []
          split
          · rfl
          · cases sub r.1 ((r.1.graph.files[r.2]?.map (·.name)).getD []) content vars (depth + 1) <;> rfl

end N2V.Load
