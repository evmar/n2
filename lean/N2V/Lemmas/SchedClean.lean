/-
  A run in which every dirtiness check answers "clean" starts nothing: no command is started or
  awaited, no completion is consumed, `tasks_run` stays put, and the environment only changes
  through the checks.  (The scheduler half of "a repeated build does nothing".)

  From a configuration with nothing queued or running whose next check answers "clean", the only
  moves `Work::run` can make are `update` and `clean` (`Step.idle`), and every way of stopping
  leaves the state as it is up to bookkeeping (`Ends.idle`).
-/
import N2V.Lemmas.SchedDone
import N2V.Lemmas.SchedClosure
namespace N2V.Sched

structure Quiet (s : S) : Prop where
  run0 : s.running = 0
  stq : ∀ b, s.st b ≠ .queued ∧ s.st b ≠ .running
  pq : popQueued s.pools = none

theorem set_quiet {g : Graph} {s s' : S} {id : Nat} {new : St} (q : Quiet s)
    (hn : new ≠ .queued ∧ new ≠ .running) (h : set g s id new = .ok s') : Quiet s' := by
  refine ⟨by rw [set_running h]; exact q.run0, fun b => ?_,
    by rw [set_pools_eq h (q.stq id).2 hn.2]; exact q.pq⟩
  by_cases hb : b = id
  · rw [hb, set_st_self h]; exact hn
  · rw [set_st_ne h hb]; exact q.stq b

theorem readyDependents_quiet {g : Graph} {s s' : S} {id : Nat} {perm : List Nat} (q : Quiet s)
    (h : readyDependents g s id perm = .ok s') : Quiet s' :=
  readyDependents_rel (R := fun s s' => Quiet s → Quiet s') (fun _ q => q) (fun h1 h2 q => h2 (h1 q))
    (fun hn hs q => set_quiet q (by rcases hn with rfl | rfl <;> decide) hs) h q

theorem want_quiet (g : Graph) (s : S) (f : Nat) (q : Quiet s) : WRKeep Quiet (want g s f) :=
  want_keep g Quiet (fun s s' id new q h hs => set_quiet q (by rcases h with rfl | rfl <;> decide) hs)
    s f q

theorem want_frame (g : Graph) (s : S) (f : Nat) : WRKeep (Frame s) (want g s f) :=
  want_relates Frame.refl Frame.trans (fun _ _ _ _ _ _ _ _ hs => set_frm hs) s f

/-- Every `Done` build is known to the environment (e.g. its outputs are in the stat cache). -/
def JD {E : Type} (D : E → Nat → Prop) (s : S) (e : E) : Prop := ∀ p, s.st p = .done → D e p

/-- What the check is assumed to do on the builds in `W`: given that every build the step
    transitively depends on (through ordering inputs) is known, it answers "clean", keeps `P`,
    makes the build known and forgets nothing. -/
def CleanCheck {E : Type} (g : Graph) (c : Choices E) (P : E → Prop) (D : E → Nat → Prop) (W : Nat → Prop) : Prop :=
  ∀ e b, P e → W b → (∀ p, Anc g b p → D e p) →
    (c.check e b).1 = some false ∧ P (c.check e b).2 ∧ D (c.check e b).2 b ∧ ∀ p, D e p → D (c.check e b).2 p

/-- A check that answers "clean" whatever is known. -/
theorem CleanCheck.of_always {E : Type} {g : Graph} {c : Choices E} {P : E → Prop}
    (hP : ∀ e b, P e → (c.check e b).1 = some false ∧ P (c.check e b).2) :
    CleanCheck g c P (fun _ _ => True) (fun _ => True) :=
  fun e b pe _ _ => ⟨(hP e b pe).1, (hP e b pe).2, trivial, fun _ _ => trivial⟩

/-- A configuration in which nothing is queued or running, the environment predicate holds, every
    `Done` build is known and only builds in `W` have been considered. -/
structure Idle {E : Type} (P : E → Prop) (D : E → Nat → Prop) (W : Nat → Prop) (s : S) (e : E) : Prop where
  quiet : Quiet s
  env : P e
  known : JD D s e
  within : ∀ b, s.st b ≠ .unknown → W b

variable {E : Type} {g : Graph} {par : Nat} {c : Choices E} {P : E → Prop} {D : E → Nat → Prop}
  {W : Nat → Prop}

/-- With the scheduler invariant, the build at the head of the ready queue meets the premises
    of `CleanCheck`. -/
theorem Idle.ready {s : S} {e : E} (i : Idle P D W s e) (inv : Inv g par s) (id : Nat) (rest : List Nat)
    (hr : s.ready = id :: rest) : W id ∧ ∀ p, Anc g id p → D e p := by
  have hst : s.st id = .ready := inv.readySt id (by simp [hr])
  exact ⟨i.within id (by rw [hst]; simp), fun p ha => i.known p (inv.anc_done ha (.inl hst))⟩

/-- The check of a build that meets those premises answers "clean"; popping it off the queue
    and taking the environment the check returns leaves the configuration idle. -/
theorem Idle.check (hD : CleanCheck g c P D W) {s : S} {e e1 : E} {id : Nat} {d : Option Bool}
    (i : Idle P D W s e) (hw : W id) (ha : ∀ p, Anc g id p → D e p) (hc : c.check e id = (d, e1))
    (rest : List Nat) : d = some false ∧ Idle P D W { s with ready := rest } e1 ∧ D e1 id := by
  have := hD e id i.env hw ha
  rw [hc] at this
  obtain ⟨hd, pe1, did, mono⟩ := this
  exact ⟨hd, ⟨⟨i.quiet.run0, i.quiet.stq, i.quiet.pq⟩, pe1, fun p hp => mono p (i.known p hp), i.within⟩, did⟩

/-- From an idle configuration the only possible moves are `update` and `clean`; both leave it
    idle and start or finish nothing. -/
theorem Step.idle (hD : CleanCheck g c P D W) {s e s' e'} (i : Idle P D W s e)
    (hrdy : ∀ id rest, s.ready = id :: rest → W id ∧ ∀ p, Anc g id p → D e p)
    (h : Step g par c s e s' e') : Idle P D W s' e' ∧ Frame s s' := by
  have q := i.quiet
  cases h with
  | update => exact ⟨⟨⟨q.run0, q.stq, q.pq⟩, i.env, i.known, i.within⟩, ⟨rfl, rfl, rfl, rfl⟩⟩
  | start _ _ hpop => rw [q.pq] at hpop; cases hpop
  | @clean _ id rest _ _ _ hr hc h =>
    obtain ⟨hw, ha⟩ := hrdy _ _ hr
    obtain ⟨-, i0, did⟩ := i.check hD hw ha hc rest
    have fr := readyDependents_frm h
    refine ⟨⟨readyDependents_quiet i0.quiet h, i0.env, fun p hp => ?_, fun b hb => ?_⟩,
      ⟨fr.tasksRun, fr.tasksFailed, fr.failuresLeft, fr.sf⟩⟩
    · rcases (readyDependents_doneAdd h p).mp hp with rfl | hp
      · exact did
      · exact i0.known p hp
    · rcases readyDependents_touch h b hb with hb | rfl
      · exact i.within b hb
      · exact hw
  | adopt _ hr hc | enqueue hr hc =>
    obtain ⟨hw, ha⟩ := hrdy _ _ hr
    cases (i.check hD hw ha hc []).1
  | failed _ hst | succeeded _ _ hst => exact absurd hst (q.stq _).2

/-- However `Work::run` stops in an idle configuration, the configuration it reports is idle
    and nothing was started or finished. -/
theorem Ends.idle (hD : CleanCheck g c P D W) {s e s' e' r} (i : Idle P D W s e)
    (hrdy : ∀ id rest, s.ready = id :: rest → W id ∧ ∀ p, Anc g id p → D e p)
    (h : Ends g par c s e s' e' r) : Idle P D W s' e' ∧ Frame s s' := by
  cases h with
  | done | fuel | fault | stalled | stuck => exact ⟨i, .refl s⟩
  | checkErr hr hc | noPool hr hc =>
    obtain ⟨hw, ha⟩ := hrdy _ _ hr
    cases (i.check hD hw ha hc []).1
  | @readyFault _ id rest _ _ _ hr hc =>
    obtain ⟨hw, ha⟩ := hrdy _ _ hr
    exact ⟨(i.check hD hw ha hc rest).2.1, ⟨rfl, rfl, rfl, rfl⟩⟩
  | interrupted _ hst | overBudget _ hst | lastFailure _ hst | failFault _ hst | succFault _ hst =>
    exact absurd hst (i.quiet.stq _).2

theorem Steps.idle (hD : CleanCheck g c P D W) {s e s' e'} (inv : Inv g par s) (i : Idle P D W s e)
    (h : Steps g par c s e s' e') : Idle P D W s' e' ∧ Frame s s' := by
  refine h.induct (P := fun s' e' => Idle P D W s' e' ∧ Frame s s') inv ⟨i, .refl s⟩ ?_
  intro s1 e1 s2 e2 inv1 ⟨i1, f1⟩ st
  obtain ⟨i2, f2⟩ := st.idle hD i1 (i1.ready inv1)
  exact ⟨i2, f1.trans f2⟩

theorem runLoop_quiet2 {E : Type} {g : Graph} {par : Nat} (c : Choices E) (P : E → Prop) (D : E → Nat → Prop)
    (W : Nat → Prop) (hD : CleanCheck g c P D W) (fuel : Nat) :
    ∀ (s : S) (e : E) (perms : List (List Nat)) (fin : List (Nat × Term)), Inv g par s → Quiet s → P e → JD D s e →
    (∀ b, s.st b ≠ .unknown → W b) →
    Quiet (runLoop g par c fuel s e perms fin).s ∧ P (runLoop g par c fuel s e perms fin).e ∧
    Frame s (runLoop g par c fuel s e perms fin).s ∧ (runLoop g par c fuel s e perms fin).finishes = fin ∧
    ((runLoop g par c fuel s e perms fin).result = .ok true →
      Inv g par (runLoop g par c fuel s e perms fin).s ∧ JD D (runLoop g par c fuel s e perms fin).s (runLoop g par c fuel s e perms fin).e) := by
  intro s e perms fin inv q pe jd hW
  have i : Idle P D W s e := ⟨q, pe, jd, hW⟩
  obtain ⟨s', e', hs, he⟩ := runLoop_spec (g := g) (par := par) (c := c) fuel s e perms fin
  obtain ⟨i', f'⟩ := hs.idle hD inv i
  have inv' := hs.inv inv
  obtain ⟨i2, f2⟩ := he.idle hD i' (i'.ready inv')
  refine ⟨i2.quiet, i2.env, f'.trans f2, ?_, fun hr => ?_⟩
  · rcases runLoop_finishes (g := g) (par := par) (c := c) fuel s e perms fin with h | ⟨s1, e1, id, hs1, hst⟩
    · exact h
    · exact absurd hst ((hs1.idle hD inv i).1.quiet.stq id).2
  · rw [hr] at he
    obtain ⟨rfl, rfl, -⟩ := he.ok_true
    exact ⟨inv', i'.known⟩

end N2V.Sched
