/-
  What an invocation can change (C02: "nothing else is written"): n2 itself never modifies the
  tree — only commands do, and only their declared outputs (the abstract command semantics'
  write set) —, the log only grows, the recorded signatures loaded at start-up, the build
  statements and the names/ids of known files are never changed, the clock never runs backwards.
-/
import N2V.Lemmas.WorkCheck
import N2V.Lemmas.SchedEnv
namespace N2V.Work
open N2V N2V.Load

theorem fileName_prefix {g g' : GraphM} (h : g.files <+: g'.files) (f : Nat) (hf : f < g.files.length) :
    fileName g' f = fileName g f := by
  obtain ⟨t, ht⟩ := h
  unfold fileName
  rw [← ht, List.getElem?_append_left hf]

/-- Names a command of the graph may write: the outputs of the build statements (and the private
    input an `rw` command rewrites). -/
def writeSet (g : GraphM) : Bytes → Prop := fun n =>
  ∃ b bm, buildOf g b = some bm ∧
    ((∃ o ∈ bm.outs, fileName g o = n) ∨ (isRw bm = true ∧ ∃ f, bm.dirtying.getLast? = some f ∧ fileName g f = n))

structure Within (e0 e : Env) : Prop where
  hashes : e.hashes = e0.hashes
  builds : e.g.builds = e0.g.builds
  files : e0.g.files <+: e.g.files
  log : e0.log <+: e.log
  clock : e0.clock ≤ e.clock
  untouched : ∀ n, ¬ writeSet e0.g n → e.fs.get n = e0.fs.get n

theorem Within.refl (e : Env) : Within e e :=
  ⟨rfl, rfl, List.prefix_refl _, List.prefix_refl _, Nat.le_refl _, fun _ _ => rfl⟩

theorem Within.of_same {e0 e e' : Env} (w : Within e0 e) (h : SameButCache e e') : Within e0 e' :=
  ⟨h.hashes.trans w.hashes, by rw [h.g]; exact w.builds, by rw [h.g]; exact w.files, by rw [h.log]; exact w.log,
   by rw [h.clock]; exact w.clock, fun n hn => by rw [h.fs]; exact w.untouched n hn⟩

theorem recordFinished_frame (e : Env) (b : Nat) (deps : Option (List Bytes)) :
    (recordFinished e b deps).fs = e.fs ∧ e.log <+: (recordFinished e b deps).log ∧
    (recordFinished e b deps).hashes = e.hashes ∧ (recordFinished e b deps).clock = e.clock ∧
    (recordFinished e b deps).g.builds = e.g.builds ∧ e.g.files <+: (recordFinished e b deps).g.files := by
  cases hb : buildOf e.g b with
  | none => rw [recordFinished_none hb]; exact ⟨rfl, List.prefix_refl _, rfl, rfl, rfl, List.prefix_refl _⟩
  | some bm =>
    obtain ⟨r1, r2, r3, r4, _, _, _, r8⟩ := recordFinished_spec e b bm hb deps
    obtain ⟨g', hk, hbs, hfs⟩ := keepDeps_env bm.dirtying (deps.getD []) e []
    rw [r1, hk]
    refine ⟨r2, ?_, r3, r4, hbs, hfs⟩
    rw [r8]
    split
    · exact List.prefix_append _ _
    · exact List.prefix_refl _

theorem FsM.get_foldl {α : Type} (step : FsM → α → FsM) (n : Bytes) (l : List α)
    (h : ∀ a ∈ l, ∀ fs, (step fs a).get n = fs.get n) (fs : FsM) : (l.foldl step fs).get n = fs.get n := by
  induction l generalizing fs with
  | nil => rfl
  | cons a l ih => rw [List.foldl_cons, ih (fun x hx => h x (List.mem_cons_of_mem _ hx)), h a List.mem_cons_self]

theorem runCommand_frame (e : Env) (b : Nat) :
    (runCommand e b).log = e.log ∧ (runCommand e b).hashes = e.hashes ∧ (runCommand e b).g = e.g ∧
    e.clock ≤ (runCommand e b).clock ∧
    ∀ n, (∀ bm, buildOf e.g b = some bm →
        (∀ o ∈ bm.outs, fileName e.g o ≠ n) ∧
        (isRw bm = true → ∀ f, bm.dirtying.getLast? = some f → fileName e.g f ≠ n)) →
      (runCommand e b).fs.get n = e.fs.get n := by
  unfold runCommand
  split
  · exact ⟨rfl, rfl, rfl, Nat.le_refl _, fun _ _ => rfl⟩
  · rename_i bm hb
    split
    · -- a `split` command: every output is either left alone or rewritten
      refine ⟨rfl, rfl, rfl, Nat.le_succ _, fun n hn => ?_⟩
      obtain ⟨ho, _⟩ := hn bm hb
      apply FsM.get_foldl
      intro oi hoi fs
      simp only []
      split
      · rfl
      · exact FsM.get_put_other fs _ n _ (fun e' => ho oi.1 (List.fst_mem_of_mem_zipIdx hoi) e'.symm)
    · refine ⟨rfl, rfl, rfl, Nat.le_succ _, fun n hn => ?_⟩
      obtain ⟨ho, hrw⟩ := hn bm hb
      have houts : ∀ content : Nat → Bytes,
          (bm.outs.foldl (fun (fs : FsM) o => fs.put (fileName e.g o) ⟨e.clock + 1, content o⟩) e.fs).get n =
            e.fs.get n :=
        fun _ => FsM.get_foldl _ n _ (fun o ho' fs => FsM.get_put_other fs _ n _ (fun e' => ho o ho' e'.symm)) _
      simp only []
      split
      · rename_i hisrw
        split
        · rename_i f hlast
          rw [FsM.get_put_other _ _ n _ (fun e' => hrw hisrw f hlast e'.symm)]
          exact houts _
        · exact houts _
      · exact houts _

theorem runCommand_disc_cache (e : Env) (b : Nat) :
    (runCommand e b).disc = e.disc ∧ (runCommand e b).cache = e.cache := by
  unfold runCommand
  cases buildOf e.g b with
  | none => exact ⟨rfl, rfl⟩
  | some bm => dsimp only; cases isSplit bm <;> exact ⟨rfl, rfl⟩

/-- File ids used by build statements are ids of the graph (true of every loaded graph). -/
def IdsOK (g : GraphM) : Prop :=
  ∀ b bm, buildOf g b = some bm → ∀ f ∈ bm.ins ++ bm.outs, f < g.files.length

theorem within_check {e0 e : Env} (w : Within e0 e) (b : Nat) : Within e0 (checkDirty e b).2 :=
  w.of_same (checkDirty_same e b)

theorem within_record {e0 e : Env} (w : Within e0 e) (b : Nat) (deps : Option (List Bytes)) :
    Within e0 (recordFinished e b deps) := by
  obtain ⟨f1, f2, f3, f4, f5, f6⟩ := recordFinished_frame e b deps
  exact ⟨f3.trans w.hashes, f5.trans w.builds, w.files.trans f6, w.log.trans f2, by rw [f4]; exact w.clock,
    fun n hn => by rw [f1]; exact w.untouched n hn⟩

theorem within_success {e0 e : Env} (ids : IdsOK e0.g) (w : Within e0 e) (b : Nat) : Within e0 (onSuccess e b) := by
  cases hb : buildOf e.g b with
  | none => rw [onSuccess_none hb]; exact w
  | some bm =>
    rw [onSuccess_some hb]
    apply within_record
    obtain ⟨r1, r2, r3, r4, r5⟩ := runCommand_frame e b
    have hb0 : buildOf e0.g b = some bm := by unfold buildOf at hb ⊢; rw [← w.builds]; exact hb
    refine ⟨r2.trans w.hashes, by rw [r3]; exact w.builds, by rw [r3]; exact w.files, by rw [r1]; exact w.log,
      Nat.le_trans w.clock r4, ?_⟩
    intro n hn
    rw [r5 n ?_]
    · exact w.untouched n hn
    · -- a file of `e0`'s graph that the command writes is in the write set
      have old : ∀ f ∈ bm.ins ++ bm.outs, fileName e.g f = fileName e0.g f :=
        fun f hf => fileName_prefix w.files f (ids b bm hb0 f hf)
      intro bm' hb'
      rw [hb] at hb'
      cases hb'
      constructor
      · intro o ho hname
        exact hn ⟨b, bm, hb0, Or.inl ⟨o, ho, by rw [← old o (by simp [ho])]; exact hname⟩⟩
      · intro hrw f hf hname
        have hfm : f ∈ bm.ins := List.mem_of_mem_take (List.mem_of_getLast? hf)
        exact hn ⟨b, bm, hb0, Or.inr ⟨hrw, f, hf, by rw [← old f (by simp [hfm])]; exact hname⟩⟩

/-- **An invocation changes only what commands write**: through the whole of `run::build`
    (both phases, any targets, any scheduling, failures and interruptions included) the recorded
    signatures, the build statements and the known files are kept, the log and the clock only
    grow, and every file outside the commands' write set is exactly as it was. -/
theorem build_within (e0 : Env) (ids : IdsOK e0.g) (g : Sched.Graph) (a : Run.Args) (adopt : Bool)
    (perms : List (List Nat)) (fin : List (Nat × Sched.Term)) :
    Within e0 (Run.build g a (choices adopt perms fin) e0).2.1 :=
  Run.build_env g a (choices adopt perms fin) (Within e0)
    (fun _ b w => within_check w b) (fun _ b w => within_success ids w b)
    (fun _ b w => within_record w b none) e0 (Within.refl e0)

theorem buildReloaded_within (e0 : Env) (ids : IdsOK e0.g) (g : Sched.Graph) (a : Run.Args) (adopt : Bool)
    (perms : List (List Nat)) (fin : List (Nat × Sched.Term)) (n : Nat) :
    Within e0 (Run.buildReloaded g a (choices adopt perms fin) e0 n).2.1 :=
  Run.buildReloaded_env g a (choices adopt perms fin) (Within e0)
    (fun _ b w => within_check w b) (fun _ b w => within_success ids w b)
    (fun _ b w => within_record w b none) e0 n (Within.refl e0)

end N2V.Work
