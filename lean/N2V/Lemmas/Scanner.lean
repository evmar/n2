/-
  Lemma library for the scanner model: what `read`, `peek`, `next`, `back`, `expect` and `slice`
  do to a well-formed scanner (buffer ending in NUL, exact line counter), including `back`'s CR
  quirk; the unread input seen as a list; and the notions both parsers are stated with: a scanner
  in good standing (`G`), a scanner positioned before a known text (`At`), and an outcome that is
  a value or a parse error inside the buffer (`Ok1`).
-/
import N2V.Model.Scanner
namespace N2V.Scanner

def nlCount (buf : Array UInt8) : Nat → Nat
  | 0 => 0
  | k + 1 => nlCount buf k + (if buf[k]? = some NL then 1 else 0)

/-- Well-formed scanner over `buf`: the buffer ends in NUL, the offset is within `0..size`, and
    the line counter is exact. -/
structure SW (buf : Array UInt8) (s : Scanner) : Prop where
  hb : s.buf = buf
  pos : 0 < buf.size
  last : buf[buf.size - 1]? = some NUL
  le : s.ofs ≤ buf.size
  line : s.line = 1 + nlCount buf s.ofs

/-- Not resting on a `\n` that follows a `\r` (where `back` would retreat two bytes). -/
def NCR (buf : Array UInt8) (k : Nat) : Prop :=
  ¬ (buf[k]? = some NL ∧ 0 < k ∧ buf[k - 1]? = some CR)

theorem ncr_of_ne {buf : Array UInt8} {k : Nat} {c : UInt8} (hc : buf[k]? = some c) (hne : c ≠ NL) : NCR buf k :=
  fun hx => hne (Option.some.inj (hc.symm.trans hx.1))

theorem ncr_after {buf : Array UInt8} {k : Nat} {c : UInt8} (hc : buf[k]? = some c) (hne : c ≠ CR) :
    NCR buf (k + 1) := by
  intro hx
  have := hx.2.2
  rw [Nat.add_sub_cancel, hc] at this
  exact hne (Option.some.inj this)

theorem nlCount_nl {buf : Array UInt8} {k : Nat} (h : buf[k]? = some NL) :
    nlCount buf (k + 1) = nlCount buf k + 1 := by
  rw [nlCount, if_pos h]

theorem nlCount_other {buf : Array UInt8} {k : Nat} (h : buf[k]? ≠ some NL) :
    nlCount buf (k + 1) = nlCount buf k := by
  rw [nlCount, if_neg h]; rfl

theorem nlCount_pos {buf : Array UInt8} {k : Nat} (h : buf[k]? = some NL) : 0 < nlCount buf (k + 1) := by
  rw [nlCount_nl h]; exact Nat.succ_pos _

theorem nlCount_mono (buf : Array UInt8) (k : Nat) : nlCount buf k ≤ nlCount buf (k + 1) := by
  rw [nlCount]; exact Nat.le_add_right _ _

/-! ### Bytes and fuel

The tests the parsers make on a byte, stated for `UInt8` so that the instances are found here and
not at every `if`; and the arithmetic of loops that spend one unit of fuel per byte. -/

theorem byte_beq {a b : UInt8} : (a == b) = true ↔ a = b := beq_iff_eq

theorem byte_beq_self (c : UInt8) : (c == c) = true := byte_beq.mpr rfl

theorem byte_not_beq {a b : UInt8} (h : a ≠ b) : ¬ (a == b) = true := fun e => h (byte_beq.mp e)

theorem byte_beq_false {a b : UInt8} (h : a ≠ b) : (a == b) = false := Bool.eq_false_iff.mpr (byte_not_beq h)

theorem byte_bne {a b : UInt8} (h : a ≠ b) : (a != b) = true := congrArg not (byte_beq_false h)

theorem byte_not_bne_self (c : UInt8) : ¬ (c != c) = true :=
  fun h => Bool.false_ne_true ((congrArg not (byte_beq_self c)).symm.trans h)

theorem byte_of_bne {a b : UInt8} (h : (a != b) = true) : a ≠ b := by
  rintro rfl; exact byte_not_bne_self a h

/-- What `G.step` asks of the byte stepped over. -/
theorem sp_inner : SP ≠ NUL ∧ SP ≠ CR := by decide

theorem nl_inner : NL ≠ NUL ∧ NL ≠ CR := by decide

theorem byte_at {buf : Array UInt8} {k : Nat} (h : k < buf.size) : ∃ c, buf[k]? = some c :=
  ⟨buf[k], Array.getElem?_eq_getElem h⟩

theorem lt_of_byte {buf : Array UInt8} {k : Nat} {c : UInt8} (h : buf[k]? = some c) : k < buf.size :=
  (Array.getElem?_eq_some_iff.1 h).1

theorem fuel_pos {size k fuel : Nat} (h : size - k < fuel) : ∃ n, fuel = n + 1 :=
  ⟨fuel - 1, by omega⟩

theorem fuel_succ {size k k' fuel : Nat} (hlt : k < size) (h : size - k < fuel + 1) (hk : k < k') :
    size - k' < fuel := by
  omega

theorem fuel_mono {size k k' fuel : Nat} (h : size - k < fuel) (hk : k ≤ k') : size - k' < fuel := by
  omega

theorem fuel_lt {size fuel : Nat} (h : size < fuel) (k : Nat) : size - k < fuel :=
  Nat.lt_of_le_of_lt (Nat.sub_le size k) h

/-- The fuel the parsers give their loops, `size + 1`, covers the buffer from any offset. -/
theorem fuel_init (size k : Nat) : size - k < size + 1 := fuel_lt (Nat.lt_succ_self size) k

/-- The scanner after `read` has consumed the byte `c`. -/
def step (s : Scanner) (c : UInt8) : Scanner :=
  { s with ofs := s.ofs + 1, line := if c == NL then s.line + 1 else s.line }

@[simp] theorem step_ofs (s : Scanner) (c : UInt8) : (s.step c).ofs = s.ofs + 1 := rfl

section
variable {buf : Array UInt8} {s : Scanner} {c : UInt8}

theorem SW.peek (w : SW buf s) (hc : buf[s.ofs]? = some c) : s.peek = .ok c := by
  rw [Scanner.peek, get, w.hb, hc]

theorem SW.read (w : SW buf s) (hc : buf[s.ofs]? = some c) : s.read = .ok (c, s.step c) := by
  rw [Scanner.read, ← Scanner.peek, w.peek hc]; rfl

theorem SW.next (w : SW buf s) (hc : buf[s.ofs]? = some c) : s.next = .ok (s.step c) := by
  rw [Scanner.next, w.read hc]

theorem SW.step (w : SW buf s) (hc : buf[s.ofs]? = some c) : SW buf (s.step c) := by
  refine ⟨w.hb, w.pos, w.last, lt_of_byte hc, ?_⟩
  show (if c == NL then s.line + 1 else s.line) = 1 + nlCount buf (s.ofs + 1)
  by_cases e : c = NL
  · subst e
    rw [if_pos (byte_beq_self _), nlCount_nl hc, w.line]; rfl
  · rw [if_neg (byte_not_beq e), nlCount_other (by rw [hc]; exact fun h => e (Option.some.inj h)), w.line]

/-- The last byte is the NUL, so a byte that is not NUL is not the last. -/
theorem SW.step_lt (w : SW buf s) (hc : buf[s.ofs]? = some c) (hne : c ≠ NUL) :
    (s.step c).ofs < buf.size := by
  refine Nat.lt_of_le_of_ne (w.step hc).le fun e => ?_
  have hl := w.last
  rw [← e, step_ofs, Nat.add_sub_cancel, hc] at hl
  exact hne (Option.some.inj hl)

end

theorem back_nl {b : Array UInt8} {k l : Nat} (hc : b[k]? = some NL) :
    (⟨b, k + 1, l + 1⟩ : Scanner).back =
      .ok ⟨b, if 0 < k ∧ b[k - 1]? = some CR then k - 1 else k, l⟩ := by
  have hq : ((decide (k > 0) && b[k - 1]? == some CR) = true) ↔ (0 < k ∧ b[k - 1]? = some CR) := by
    rw [Bool.and_eq_true, decide_eq_true_iff, beq_iff_eq]
  unfold back get
  simp only [Nat.add_sub_cancel, hc]
  rw [if_neg (of_decide_eq_false rfl), if_pos (byte_beq_self _)]
  by_cases q : 0 < k ∧ b[k - 1]? = some CR
  · rw [if_pos (hq.mpr q), if_pos q]; rfl
  · rw [if_neg (mt hq.mp q), if_neg q]; rfl

theorem back_other {b : Array UInt8} {k l : Nat} {c : UInt8} (hc : b[k]? = some c) (hne : c ≠ NL) :
    (⟨b, k + 1, l⟩ : Scanner).back = .ok ⟨b, k, l⟩ := by
  unfold back get
  simp only [Nat.add_sub_cancel, hc]
  rw [if_neg (of_decide_eq_false rfl), if_neg (byte_not_beq hne)]

theorem SW.mk_ofs {buf : Array UInt8} {s : Scanner} (w : SW buf s) {k : Nat} (hk : k ≤ buf.size) :
    SW buf ⟨buf, k, 1 + nlCount buf k⟩ :=
  ⟨rfl, w.pos, w.last, hk, rfl⟩

/-- `back` in general: one byte back and the line counter stays exact; from the `\n` of a `\r\n`
    it is two bytes, onto the `\r`. -/
theorem back_lands {buf : Array UInt8} {s : Scanner} {k : Nat} (w : SW buf s) (hk : s.ofs = k + 1) :
    ∃ s', s.back = .ok s' ∧ SW buf s' ∧ NCR buf s'.ofs ∧
      (NCR buf k → s'.ofs = k) ∧ (¬ NCR buf k → s'.ofs + 1 = k) := by
  have hlt : k + 1 ≤ buf.size := hk ▸ w.le
  obtain ⟨b, o, l⟩ := s
  obtain rfl : b = buf := w.hb
  obtain rfl : o = k + 1 := hk
  obtain rfl : l = 1 + nlCount b (k + 1) := w.line
  by_cases hnl : b[k]? = some NL
  · rw [nlCount_nl hnl, ← Nat.add_assoc, back_nl hnl]
    by_cases q : 0 < k ∧ b[k - 1]? = some CR
    · have hn : ¬ NCR b k := fun n => n ⟨hnl, q⟩
      rw [if_pos q]
      obtain ⟨j, rfl⟩ : ∃ j, k = j + 1 := ⟨k - 1, (Nat.sub_add_cancel q.1).symm⟩
      have hj : b[j]? ≠ some NL := by rw [show b[j]? = some CR from q.2]; decide
      rw [nlCount_other hj, Nat.add_sub_cancel]
      exact ⟨_, rfl, w.mk_ofs (Nat.le_of_lt (Nat.lt_of_succ_lt hlt)), fun hx => hj hx.1, fun n => absurd n hn, fun _ => rfl⟩
    · have hn : NCR b k := fun hx => q hx.2
      rw [if_neg q]
      exact ⟨_, rfl, w.mk_ofs (Nat.le_of_lt hlt), hn, fun _ => rfl, fun h => absurd hn h⟩
  · obtain ⟨c, hc⟩ := byte_at hlt
    have hn : NCR b k := fun hx => hnl hx.1
    rw [nlCount_other hnl, back_other hc (fun e => hnl (e ▸ hc))]
    exact ⟨_, rfl, w.mk_ofs (Nat.le_of_lt hlt), hn, fun _ => rfl, fun h => absurd hn h⟩

theorem SW.back_step {buf : Array UInt8} {s : Scanner} {c : UInt8} (w : SW buf s)
    (hc : buf[s.ofs]? = some c) (n : NCR buf s.ofs) : (s.step c).back = .ok s := by
  obtain ⟨b, k, l⟩ := s
  obtain rfl : b = buf := w.hb
  by_cases e : c = NL
  · subst e
    rw [Scanner.step, if_pos (byte_beq_self _), back_nl hc, if_neg fun q => n ⟨hc, q⟩]
  · rw [Scanner.step, if_neg (byte_not_beq e), back_other hc e]

theorem SW.slice {buf : Array UInt8} {s : Scanner} (w : SW buf s) {a b : Nat} (hab : a ≤ b) (hb : b ≤ buf.size) :
    s.slice a b = .ok (buf.extract a b).toList := by
  rw [Scanner.slice, w.hb, if_pos ⟨hab, hb⟩]

theorem new_nul (text : Bytes) :
    Scanner.new (text ++ [NUL]).toArray = .ok ⟨(text ++ [NUL]).toArray, 0, 1⟩ := by
  simp [Scanner.new, Array.back?]

theorem SW.start (text : Bytes) : SW (text ++ [NUL]).toArray ⟨(text ++ [NUL]).toArray, 0, 1⟩ :=
  ⟨rfl, by simp, by simp, Nat.zero_le _, rfl⟩

def Rest (buf : Array UInt8) (k : Nat) (r : Bytes) : Prop := buf.toList.drop k = r

theorem Rest.head {buf : Array UInt8} {k : Nat} {c : UInt8} {r : Bytes} (h : Rest buf k (c :: r)) :
    buf[k]? = some c := by
  unfold Rest at h
  have : buf.toList[k]? = some c := by
    rw [← List.head?_drop, h]; rfl
  simpa using this

theorem Rest.tail {buf : Array UInt8} {k : Nat} {c : UInt8} {r : Bytes} (h : Rest buf k (c :: r)) :
    Rest buf (k + 1) r := by
  unfold Rest at h ⊢
  have : buf.toList.drop (k + 1) = (buf.toList.drop k).tail := by
    rw [List.tail_drop]
  rw [this, h]; rfl

theorem Rest.lt {buf : Array UInt8} {k : Nat} {c : UInt8} {r : Bytes} (h : Rest buf k (c :: r)) : k < buf.size :=
  lt_of_byte h.head

theorem Rest.append {buf : Array UInt8} {k : Nat} {a r : Bytes} (h : Rest buf k (a ++ r)) :
    Rest buf (k + a.length) r := by
  induction a generalizing k with
  | nil => simpa using h
  | cons c a ih =>
    have := ih (k := k + 1) (by exact Rest.tail (by simpa using h))
    simpa [Nat.add_assoc, Nat.add_comm 1] using this

theorem Rest.length {buf : Array UInt8} {k : Nat} {r : Bytes} (h : Rest buf k r) : r.length = buf.size - k := by
  unfold Rest at h
  rw [← h, List.length_drop, Array.length_toList]

/-- The text that is left determines the offset. -/
theorem Rest.ofs_add {buf : Array UInt8} {a b : Nat} {x r : Bytes} (h1 : Rest buf a (x ++ r)) (h2 : Rest buf b r)
    (hb : b < buf.size) : b = a + x.length := by
  have e1 := h1.length
  have e2 := h2.length
  rw [List.length_append] at e1
  omega

theorem Rest.extract {buf : Array UInt8} {k : Nat} {a r : Bytes} (h : Rest buf k (a ++ r)) :
    (buf.extract k (k + a.length)).toList = a := by
  unfold Rest at h
  rw [Array.toList_extract]
  have : (buf.toList.drop k).take a.length = a := by rw [h]; simp
  simpa [List.extract_eq_take_drop] using this

theorem SW.slice_rest {buf : Array UInt8} {s : Scanner} {a b : Nat} {x r : Bytes} (w : SW buf s)
    (h1 : Rest buf a (x ++ r)) (h2 : Rest buf b r) (hb : b < buf.size) : s.slice a b = .ok x := by
  have e := h1.ofs_add h2 hb
  rw [w.slice (e ▸ Nat.le_add_right _ _) (Nat.le_of_lt hb), e, h1.extract]

end N2V.Scanner

namespace N2V.Depfile
open N2V N2V.Scanner

/-- A scanner in good standing: well-formed, at a readable position, not on the `\n` of `\r\n`. -/
structure G (buf : Array UInt8) (s : Scanner) : Prop where
  w : SW buf s
  lt : s.ofs < buf.size
  ncr : NCR buf s.ofs

section
variable {buf : Array UInt8} {s s' : Scanner} {c : UInt8} {x r : Bytes}

theorem G.byte (g : G buf s) : ∃ c, buf[s.ofs]? = some c := byte_at g.lt

/-- Past a byte that is neither the final NUL nor a `\r` the scanner is in good standing. -/
theorem G.step (w : SW buf s) (hc : buf[s.ofs]? = some c) (h : c ≠ NUL ∧ c ≠ CR) : G buf (s.step c) :=
  ⟨w.step hc, w.step_lt hc h.1, ncr_after hc h.2⟩

theorem G.back_step (g : G buf s) (hc : buf[s.ofs]? = some c) : (s.step c).back = .ok s :=
  g.w.back_step hc g.ncr

theorem G.start (text : Bytes) : G (text ++ [NUL]).toArray ⟨(text ++ [NUL]).toArray, 0, 1⟩ :=
  ⟨SW.start text, by simp, fun hx => Nat.lt_irrefl 0 hx.2.1⟩

theorem G.expect (g : G buf s) (hc : buf[s.ofs]? = some c) (ch : UInt8) :
    s.expect ch = if c != ch then parseError s ("expected " ++ showCh ch) else .ok () (s.step c) := by
  unfold Scanner.expect
  rw [g.w.read hc]
  simp only []
  rw [g.back_step hc]

theorem G.skipSpaces_succ (g : G buf s) (hc : buf[s.ofs]? = some c) (fuel : Nat) :
    Scanner.skipSpaces (fuel + 1) s = if c != SP then .ok s else Scanner.skipSpaces fuel (s.step c) := by
  conv => lhs; unfold Scanner.skipSpaces skip
  rw [g.w.read hc]
  simp only []
  rw [g.back_step hc]
  by_cases h : (c != SP) = true
  · rw [if_pos h, if_pos h]
  · rw [if_neg h, if_neg h]

/-- `back` when more than `start` was consumed lands at or after `start`, in good standing (the
    two-byte retreat needs a `\n` at the position before, which `hn` excludes for `start`). -/
theorem back_ge {buf : Array UInt8} {s : Scanner} (w : SW buf s) (start : Nat) (h : start < s.ofs)
    (hn : s.ofs = start + 1 → NCR buf start) :
    ∃ s', s.back = .ok s' ∧ G buf s' ∧ start ≤ s'.ofs := by
  obtain ⟨k, hk⟩ : ∃ k, s.ofs = k + 1 := ⟨s.ofs - 1, (Nat.sub_add_cancel (Nat.zero_lt_of_lt h)).symm⟩
  obtain ⟨s', hb, w', n', h1, h2⟩ := back_lands w hk
  have hle : k + 1 ≤ buf.size := hk ▸ w.le
  by_cases n : NCR buf k
  · obtain rfl := h1 n
    exact ⟨s', hb, ⟨w', hle, n'⟩, Nat.le_of_lt_succ (hk ▸ h : start < s'.ofs + 1)⟩
  · have e := h2 n
    have : k ≠ start := fun e => n (e ▸ hn (e ▸ hk))
    have : s'.ofs < buf.size ∧ start ≤ s'.ofs := by omega
    exact ⟨s', hb, ⟨w', this.1, n'⟩, this.2⟩

structure At (buf : Array UInt8) (s : Scanner) (r : Bytes) : Prop where
  g : G buf s
  rest : Rest buf s.ofs r

theorem At.start (text : Bytes) : At (text ++ [NUL]).toArray ⟨(text ++ [NUL]).toArray, 0, 1⟩ (text ++ [NUL]) :=
  ⟨G.start text, by unfold Rest; simp⟩

theorem At.ofs_add (a : At buf s (x ++ r)) (a' : At buf s' r) : s'.ofs = s.ofs + x.length :=
  a.rest.ofs_add a'.rest a'.g.lt

theorem At.ofs_le (a : At buf s (x ++ r)) (a' : At buf s' r) : s.ofs ≤ s'.ofs :=
  a.ofs_add a' ▸ Nat.le_add_right _ _

theorem At.ofs_lt (a : At buf s (x ++ r)) (a' : At buf s' r) (hx : x ≠ []) : s.ofs < s'.ofs :=
  a.ofs_add a' ▸ Nat.lt_add_of_pos_right (List.length_pos_iff.mpr hx)

theorem At.fuel (a : At buf s r) : r.length ≤ buf.size + 1 := by
  rw [a.rest.length]; exact Nat.le_succ_of_le (Nat.sub_le _ _)

theorem At.peek (a : At buf s (c :: r)) : s.peek = .ok c := a.g.w.peek a.rest.head

theorem At.read (a : At buf s (c :: r)) : s.read = .ok (c, s.step c) := a.g.w.read a.rest.head

theorem At.back (a : At buf s (c :: r)) : (s.step c).back = .ok s := a.g.back_step a.rest.head

theorem At.step (a : At buf s (c :: r)) (h : c ≠ NUL ∧ c ≠ CR) : At buf (s.step c) r :=
  ⟨G.step a.g.w a.rest.head h, a.rest.tail⟩

theorem At.expect (a : At buf s (c :: r)) : s.expect c = .ok () (s.step c) := by
  rw [a.g.expect a.rest.head, if_neg (byte_not_bne_self c)]

theorem At.slice (a : At buf s (x ++ r)) (a' : At buf s' r) : s'.slice s.ofs s'.ofs = .ok x :=
  a'.g.w.slice_rest a.rest a'.rest a'.g.lt

theorem scanner_skipSpaces_ok (buf : Array UInt8) : ∀ (fuel : Nat) (s : Scanner), G buf s → buf.size - s.ofs < fuel →
    ∃ s', Scanner.skipSpaces fuel s = .ok s' ∧ G buf s' ∧ s.ofs ≤ s'.ofs ∧ (buf[s.ofs]? = some SP → s.ofs < s'.ofs) := by
  intro fuel
  induction fuel with
  | zero => intro s _ h; exact absurd h (Nat.not_lt_zero _)
  | succ fuel ih =>
    intro s g hf
    obtain ⟨c, hc⟩ := g.byte
    rw [g.skipSpaces_succ hc]
    by_cases hsp : c = SP
    · subst hsp
      rw [if_neg (byte_not_bne_self _)]
      obtain ⟨s', h', g', hle, -⟩ := ih _ (G.step g.w hc sp_inner) (fuel_succ g.lt hf (Nat.lt_succ_self _))
      exact ⟨s', h', g', Nat.le_of_succ_le hle, fun _ => hle⟩
    · rw [if_pos (byte_bne hsp)]
      exact ⟨s, rfl, g, Nat.le_refl _, fun h => absurd (Option.some.inj (hc.symm.trans h)) hsp⟩

theorem scanner_skipSpaces_at (buf : Array UInt8) (k : Nat) : ∀ (fuel : Nat) (s : Scanner) (c : UInt8) (r : Bytes),
    At buf s (List.replicate k SP ++ c :: r) → c ≠ SP → buf.size - s.ofs < fuel →
    ∃ s', Scanner.skipSpaces fuel s = .ok s' ∧ At buf s' (c :: r) := by
  induction k with
  | zero =>
    intro fuel s c r a hsp hf
    obtain ⟨fuel, rfl⟩ := fuel_pos hf
    have a : At buf s (c :: r) := a
    refine ⟨s, ?_, a⟩
    rw [a.g.skipSpaces_succ a.rest.head, if_pos (byte_bne hsp)]
  | succ k ih =>
    intro fuel s c r a hsp hf
    obtain ⟨fuel, rfl⟩ := fuel_pos hf
    have a : At buf s (SP :: (List.replicate k SP ++ c :: r)) := a
    obtain ⟨s', h', a'⟩ := ih fuel _ c r (a.step sp_inner) hsp (fuel_succ a.g.lt hf (Nat.lt_succ_self _))
    refine ⟨s', ?_, a'⟩
    rw [a.g.skipSpaces_succ a.rest.head, if_neg (byte_not_bne_self _), h']

end

end N2V.Depfile

namespace N2V.Parse
open N2V N2V.Scanner
open N2V.Depfile (G)

/-- The outcome is a value with a scanner satisfying `P`, or a parse error whose offset is at most
    `B` (the size of the buffer: the excerpt formatter can always locate it); never abnormal. -/
def Ok1 {α : Type} (B : Nat) (P : α → Scanner → Prop) : PRes α → Prop
  | .ok a s' => P a s'
  | .perr _ o => o ≤ B
  | .bad _ => False

section
variable {α : Type} {B : Nat} {buf : Array UInt8} {s : Scanner} {r : PRes α}

theorem ok1_mono {P Q : α → Scanner → Prop} (h : Ok1 B P r) (hpq : ∀ a s, P a s → Q a s) : Ok1 B Q r := by
  cases r with
  | ok a s => exact hpq a s h
  | perr m o => exact h
  | bad r => exact h

theorem ok1_of_eq {P : α → Scanner → Prop} {a : α} (h : r = .ok a s) (hp : P a s) : Ok1 B P r := by
  rw [h]; exact hp

/-- The two outcomes, as equations to rewrite a caller's `match` with. -/
theorem Ok1.perr_or_ok {P : α → Scanner → Prop} (h : Ok1 B P r) :
    (∃ m o, r = .perr m o ∧ o ≤ B) ∨ ∃ a s, r = .ok a s ∧ P a s := by
  cases r with
  | ok a s => exact .inr ⟨a, s, rfl, h⟩
  | perr m o => exact .inl ⟨m, o, rfl, h⟩
  | bad r => exact h.elim

theorem ok1_later {k k' : Nat} (hr : Ok1 B (fun _ s' => G buf s' ∧ k' ≤ s'.ofs) r) (h : k ≤ k') :
    Ok1 B (fun _ s' => G buf s' ∧ k ≤ s'.ofs) r :=
  ok1_mono hr fun _ _ h' => ⟨h'.1, Nat.le_trans h h'.2⟩

theorem expect_ok1 (g : G buf s) (ch : UInt8) :
    Ok1 buf.size (fun _ s' => s' = s.step ch ∧ buf[s.ofs]? = some ch) (s.expect ch) := by
  obtain ⟨c, hc⟩ := g.byte
  rw [g.expect hc]
  by_cases hcc : c = ch
  · subst hcc
    rw [if_neg (byte_not_bne_self _)]
    exact ⟨rfl, hc⟩
  · rw [if_pos (byte_bne hcc)]
    exact g.w.le

end

end N2V.Parse
