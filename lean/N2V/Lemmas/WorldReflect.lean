/-
  Reflection: the decidable predicate the C03 monitor evaluates on a concrete world
  (`World.settled`, plus a closedness check of the computed closure) implies the hypothesis of
  `repeated_build_does_nothing` (`Work.AllUpToDate` over `Run.Wanted`): where the monitor said
  "settled" the theorem applies, by proof and not by resemblance (`settledC_sound`).
-/
import N2V.Model.Settled
import N2V.Lemmas.WorldClean
namespace N2V.World
open N2V N2V.Work N2V.Load N2V.Sched N2V.Run

theorem closedUnder_spec {g : Graph} {roots acc : List Nat} (h : closedUnder g roots acc = true) :
    (∀ f ∈ roots, ∀ p, g.producer f = some p → p ∈ acc) ∧
    ∀ b ∈ acc, ∀ f ∈ (g.build b).ordering ++ (g.build b).validation, ∀ p, g.producer f = some p → p ∈ acc := by
  unfold closedUnder at h
  simp only [Bool.and_eq_true, List.all_eq_true] at h
  have key : ∀ {f}, (match g.producer f with | some p => acc.contains p | none => true) = true →
      ∀ p, g.producer f = some p → p ∈ acc := by
    intro f h p hp; rw [hp] at h; simpa using h
  exact ⟨fun f hf => key (h.1 f hf), fun b hb f hf => key (h.2 b hb f hf)⟩

theorem needs_in_closed (g : Graph) (roots acc : List Nat) (h : closedUnder g roots acc = true)
    (f b : Nat) (hf : f ∈ roots) (hn : Needs g f b) : b ∈ acc := by
  obtain ⟨hroots, hcl⟩ := closedUnder_spec h
  have key : ∀ f b, Needs g f b → (∀ p, g.producer f = some p → p ∈ acc) → b ∈ acc := by
    intro f b hn
    induction hn with
    | direct hp => exact fun hr => hr _ hp
    | step _ hmem _ ih1 ih2 => exact fun hr => ih2 (hcl _ (ih1 hr) _ hmem)
  exact key f b hn (hroots f hf)

/-- One step of `Mon.wantedFiles`' fold over the command-line names. -/
def wfStep (g : Graph) (a : Args) (acc : Option (List Nat)) (n : Bytes) : Option (List Nat) :=
  match acc, lookupM g a n with
  | some l, .ok (some t) => some (if t = a.manifest then l else l ++ [t])
  | some l, .ok none => if a.adopt then some l else none
  | _, _ => none

theorem wantedFiles_eq (g : Graph) (a : Args) : Mon.wantedFiles g a =
    if !a.targets.isEmpty then a.targets.foldl (wfStep g a) (some [])
    else if !a.defaults.isEmpty then some a.defaults
    else some ((List.range g.nFiles).filter (· ≠ a.manifest)) := rfl

theorem wfStep_none (g : Graph) (a : Args) (n : Bytes) : wfStep g a none n = none := by
  unfold wfStep; rfl

theorem wantedFold_none (g : Graph) (a : Args) (ts : List Bytes) : ts.foldl (wfStep g a) none = none := by
  induction ts with
  | nil => rfl
  | cons t ts ih => simp only [List.foldl_cons, wfStep_none]; exact ih

theorem wfStep_some {g : Graph} {a : Args} {acc acc' : List Nat} {n : Bytes}
    (h : wfStep g a (some acc) n = some acc') :
    (∀ x ∈ acc, x ∈ acc') ∧ ∀ t, lookupM g a n = .ok (some t) → t = a.manifest ∨ t ∈ acc' := by
  unfold wfStep at h
  split at h
  · rename_i l t hacc hl
    cases hacc
    cases h
    refine ⟨fun x hx => by split <;> simp [hx], fun t' ht' => ?_⟩
    rw [hl] at ht'
    cases ht'
    by_cases hm : t = a.manifest
    · exact Or.inl hm
    · exact Or.inr (by simp [hm])
  · rename_i l hacc hl
    cases hacc
    split at h
    · cases h
      exact ⟨fun _ hx => hx, fun t ht => by rw [hl] at ht; cases ht⟩
    · cases h
  · cases h

theorem wantedFold_spec (g : Graph) (a : Args) (ts : List Bytes) : ∀ (acc l : List Nat),
    ts.foldl (wfStep g a) (some acc) = some l →
    (∀ x ∈ acc, x ∈ l) ∧ ∀ n ∈ ts, ∀ t, lookupM g a n = .ok (some t) → t = a.manifest ∨ t ∈ l := by
  induction ts with
  | nil =>
    intro acc l h
    cases h
    exact ⟨fun _ h => h, nofun⟩
  | cons n ts ih =>
    intro acc l h
    rw [List.foldl_cons] at h
    cases hs : wfStep g a (some acc) n with
    | none => rw [hs, wantedFold_none] at h; cases h
    | some acc' =>
      rw [hs] at h
      obtain ⟨s1, s2⟩ := wfStep_some hs
      obtain ⟨h1, h2⟩ := ih acc' l h
      refine ⟨fun x hx => h1 x (s1 x hx), fun n' hn' t ht => ?_⟩
      rcases List.mem_cons.mp hn' with rfl | hn'
      · exact (s2 t ht).imp id (h1 t)
      · exact h2 n' hn' t ht

theorem requested_in_wantedFiles (g : Graph) (a : Args) (files : List Nat)
    (h : Mon.wantedFiles g a = some files) (f : Nat) (hr : Requested g a f) : f ∈ a.manifest :: files := by
  rw [wantedFiles_eq] at h
  rcases hr with rfl | ⟨n, hn, hl⟩ | ⟨ht, hd⟩ | ⟨ht, hd, hlt⟩
  · simp
  · have hne : a.targets.isEmpty = false := List.isEmpty_eq_false_iff_exists_mem.mpr ⟨n, hn⟩
    simp only [hne, Bool.not_false, if_true] at h
    obtain ⟨_, h2⟩ := wantedFold_spec g a a.targets [] files h
    rcases h2 n hn f hl with h' | h' <;> simp [h']
  · simp only [ht, List.isEmpty_nil, Bool.not_true, Bool.false_eq_true, if_false] at h
    have hne : a.defaults.isEmpty = false := List.isEmpty_eq_false_iff_exists_mem.mpr ⟨f, hd⟩
    simp only [hne, Bool.not_false, if_true, Option.some.injEq] at h
    subst h; simp [hd]
  · simp only [ht, hd, List.isEmpty_nil, Bool.not_true, Bool.false_eq_true, if_false, Option.some.injEq] at h
    subst h
    by_cases hm : f = a.manifest
    · simp [hm]
    · simp [hm, hlt]

theorem closure_sound (next : Nat → List Nat) (P : Nat → Prop) (hnext : ∀ x y, P x → y ∈ next x → P y)
    (fuel : Nat) (frontier acc : List Nat) (h1 : ∀ x ∈ frontier, P x) (h2 : ∀ x ∈ acc, P x) :
    ∀ x ∈ Mon.closure next fuel frontier acc, P x := by
  fun_induction Mon.closure next fuel frontier acc with
  | case1 => exact h2
  | case2 => exact h2
  | case3 _ _ _ _ _ ih => exact ih (fun y hy => h1 y (List.mem_cons_of_mem _ hy)) h2
  | case4 _ b _ _ _ ih =>
    refine ih (fun y hy => ?_) (fun y hy => ?_)
    · rcases List.mem_append.mp hy with h | h
      · exact hnext b y (h1 b List.mem_cons_self) h
      · exact h1 y (List.mem_cons_of_mem _ h)
    · rcases List.mem_cons.mp hy with rfl | h
      · exact h1 _ List.mem_cons_self
      · exact h2 y h

theorem ancestors_sound (g : Graph) (b p : Nat) (h : p ∈ Mon.ancestors g b) : Anc g b p := by
  unfold Mon.ancestors at h
  have hdirect : ∀ x y, y ∈ Mon.orderingProducers g x → Anc g x y := by
    intro x y hy
    unfold Mon.orderingProducers at hy
    rw [mem_dedup] at hy
    obtain ⟨f, hf, hp⟩ := List.mem_filterMap.mp hy
    exact Anc.direct hf hp
  exact closure_sound (Mon.orderingProducers g) (Anc g b) (fun x y hx hy => Anc.step hx (hdirect x y hy))
    _ _ _ (hdirect b) (fun _ h => absurd h List.not_mem_nil) p h

theorem manifestOfTree_eq (e : Env) (bm : BuildM) (b : Nat) : manifestOfTree e bm b = manifestFs e bm b := rfl

theorem stepSettled_sound {e0 : Env} {b : Nat} {bm : BuildM} (h : stepSettled e0 (schedGraph e0.g) b bm = true) :
    UpToDate e0 b bm ∧ ∀ f ∈ discOf e0 b, ∀ p, fileInput e0.g f = some p → Anc (schedGraph e0.g) b p := by
  unfold stepSettled at h
  simp only [Bool.and_eq_true, List.all_eq_true, decide_eq_true_eq] at h
  obtain ⟨⟨h1, h2⟩, h3⟩ := h
  refine ⟨⟨fun f hf => ?_, by rw [h2, manifestOfTree_eq]⟩, fun f hf p hp => ?_⟩
  · unfold mtimeOf
    rw [Option.isSome_map]
    exact h1 f hf
  · have := h3 f hf
    rw [hp] at this
    exact ancestors_sound _ b p (by simpa using this)

theorem settledC_sound (w : World) (a : InvArgs) (h : settledC w a = true) :
    ∃ l e0, loadEnv w a.manifestName = .ok (l, e0) ∧
      AllUpToDate e0 (Wanted (schedGraph e0.g) (argsOf l a)) := by
  unfold settledC at h
  simp only [Bool.and_eq_true] at h
  obtain ⟨hs, hc⟩ := h
  unfold settled at hs
  unfold closureOK at hc
  cases hl : loadEnv w a.manifestName with
  | error e => rw [hl] at hs; cases hs
  | ok le =>
    obtain ⟨l, e0⟩ := le
    rw [hl] at hs hc
    simp only [] at hs hc
    refine ⟨l, e0, rfl, ?_⟩
    cases hw : Mon.wantedFiles (schedGraph e0.g) (argsOf l a) with
    | none => rw [hw] at hs; cases hs
    | some files =>
      rw [hw] at hs hc
      simp only [List.all_eq_true] at hs
      have hstep : ∀ b bm, Wanted (schedGraph e0.g) (argsOf l a) b → buildOf e0.g b = some bm →
          bm.cmdline.isNone = false → stepSettled e0 (schedGraph e0.g) b bm = true := by
        intro b bm ⟨f, hr, hn⟩ hb hnp
        have := hs b (needs_in_closed _ _ _ hc f b (requested_in_wantedFiles _ _ files hw f hr) hn)
        rw [hb] at this
        simpa [hnp] using this
      exact ⟨fun b bm hW hb hnp => (stepSettled_sound (hstep b bm hW hb hnp)).1,
        fun b bm hW hb hnp => (stepSettled_sound (hstep b bm hW hb hnp)).2⟩

/-- **A decidable sufficient condition for "the build does nothing"**: if `settledC` evaluates to
    `true` on a world, every invocation with these arguments leaves tree, clock and log as they
    are and runs no command, whatever the scheduling choices. -/
theorem settled_world_is_left_alone (w : World) (a : InvArgs) (h : settledC w a = true)
    (obs1 obs2 : List (List Nat) × List (Nat × Sched.Term)) :
    (invoke w a obs1 obs2).1 = w ∧ commandEvents (invoke w a obs1 obs2).2.2 = [] := by
  obtain ⟨l, e0, hl, hu⟩ := settledC_sound w a h
  have := invoke_upToDate w a obs1 obs2 l e0 hl hu
  exact ⟨this.1, this.2.1⟩

end N2V.World
