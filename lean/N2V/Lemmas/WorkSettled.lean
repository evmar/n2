/-
  What is Done is settled, for projects without discovered dependencies (`Plain`: no step reads a
  depfile or `deps`).  Then the graph never grows, every discovered list stays empty and every
  record written has an empty dependency list: `NoDisc`, which every environment operation keeps
  and which gives `GoodD`.  Under `NoDisc` the invariant `JC` reads as `JS` (`JS.of_core`), whose
  `settled` speaks of the signatures the next start-up attaches, as a function of the log alone
  (`hashesOf`, `inForce`).
-/
import N2V.Lemmas.WorkSettledD
namespace N2V.Work
open N2V N2V.Load N2V.Sched

def hashesOf (g : GraphM) : List Rec → List (Nat × Manifest) → List (Nat × Manifest)
  | [], h => h
  | r :: rs, h =>
    match Db.attributeRec (producerByName g) r.outs with
    | some b => hashesOf g rs (assocPut h b r.hash)
    | none => hashesOf g rs h

theorem hashesOf_cons (g : GraphM) (r : Rec) (rs : List Rec) (h : List (Nat × Manifest)) :
    hashesOf g (r :: rs) h =
      match Db.attributeRec (producerByName g) r.outs with
      | some b => hashesOf g rs (assocPut h b r.hash)
      | none => hashesOf g rs h := rfl

theorem assocGet_hashesOf (g : GraphM) (b : Nat) (rs : List Rec) : ∀ (h : List (Nat × Manifest)),
    assocGet (hashesOf g rs h) b = ((lastRec g b rs none).map (·.hash)).or (assocGet h b) := by
  induction rs with
  | nil => intro h; rfl
  | cons r rs ih =>
    intro h
    rw [lastRec_cons, hashesOf_cons]
    cases hatt : Db.attributeRec (producerByName g) r.outs with
    | none => rw [if_neg (by simp)]; exact ih h
    | some b' =>
      simp only []
      rw [ih]
      by_cases hb : b' = b
      · rw [if_pos (by rw [hb]), hb, assocGet_put_self]
        cases lastRec g b rs none <;> rfl
      · rw [if_neg (fun h => hb (Option.some.inj h)), assocGet_put_other _ _ _ _ (fun h => hb h.symm)]

theorem keepDeps_nil (e : Env) (dirtying : List Nat) : keepDeps e dirtying [] [] = (e, []) := rfl

theorem manifestOf_log (e : Env) (l : List Rec) (bm : BuildM) (b : Nat) :
    manifestOf { e with log := l } bm b = manifestOf e bm b := rfl

structure Plain (g : GraphM) : Prop where
  noDeps : ∀ b bm, buildOf g b = some bm → readsDeps bm = false
  noRw : ∀ b bm, buildOf g b = some bm → isRw bm = false
  outsNe : ∀ b bm, buildOf g b = some bm → bm.outs ≠ []

theorem Plain.plainD {g : GraphM} (h : Plain g) : PlainD g := ⟨h.noRw, h.outsNe⟩

/-- The signatures the next start-up would attach (graph as loaded, log as it is now). -/
def inForce (e0 e : Env) : List (Nat × Manifest) := hashesOf e0.g (newLog e0 e) e0.hashes

theorem attached_inForce (e0 e : Env) (b : Nat) : (attached e0 e b).1 = assocGet (inForce e0 e) b := by
  unfold attached inForce
  rw [assocGet_hashesOf]
  cases lastRec e0.g b (newLog e0 e) none <;> rfl

def AllPresent (e : Env) (bm : BuildM) : Prop := ∀ f ∈ bm.dirtying ++ bm.outs, (mtimeOf e f).isSome = true

/-- `JC` where nothing is discovered (`JS.of_core`): the graph is `e0`'s, the lists are empty, and
    `settled` speaks of `inForce`. -/
structure JS (e0 : Env) (s : S) (e : Env) : Prop where
  g : e.g = e0.g
  hashes : e.hashes = e0.hashes
  nodisc : ∀ b, discOf e b = []
  logPre : e0.log <+: e.log
  newRecs : ∀ r ∈ newLog e0 e, r.deps = [] ∧ ∃ b bm, s.st b = .done ∧ buildOf e0.g b = some bm ∧ r.outs = bm.outs.map (fileName e0.g)
  cache : ∀ f m, f < e0.g.files.length → assocGet e.cache f = some m →
    m = mtimeOf e f ∨ ∃ p, fileInput e0.g f = some p ∧ s.st p ≠ .done
  stable : ∀ b bm, s.st b = .done → buildOf e0.g b = some bm →
    ∀ f ∈ bm.dirtying, ∀ p, fileInput e0.g f = some p → s.st p = .done
  settled : ∀ b bm, s.st b = .done → buildOf e0.g b = some bm → bm.cmdline.isNone = false → AllPresent e bm →
    assocGet (inForce e0 e) b = some (manifestFs e bm b)

/-- Nothing was discovered since `e0`: the graph is `e0`'s, no step has discovered dependencies,
    and no record written since lists any. -/
structure NoDisc (e0 e : Env) : Prop where
  g : e.g = e0.g
  nodisc : ∀ b, discOf e b = []
  nodeps : ∀ r ∈ newLog e0 e, r.deps = []

theorem NoDisc.check {e0 e : Env} (h : NoDisc e0 e) (b : Nat) : NoDisc e0 (checkDirty e b).2 := by
  have st := checkDirty_same e b
  exact ⟨st.g.trans h.g, fun x => (discOf_same st x).trans (h.nodisc x),
    fun r hr => h.nodeps r (by rw [← newLog_same st.log]; exact hr)⟩

/-- `record_finished` without a report interns nothing and leaves the step's list empty. -/
theorem NoDisc.record {e0 e : Env} (h : NoDisc e0 e) (b : Nat) : NoDisc e0 (recordFinished e b none) := by
  cases hb : buildOf e.g b with
  | none => rw [recordFinished_none hb]; exact h
  | some bm =>
    obtain ⟨r1, _, _, _, r5, r6, _, r8⟩ := recordFinished_spec e b bm hb none
    rw [show (none : Option (List Bytes)).getD [] = [] from rfl, keepDeps_nil] at r1 r5
    have hnd : ∀ x, discOf (recordFinished e b none) x = [] := fun x => by
      by_cases hx : x = b
      · rw [hx, r5]
      · rw [r6 x hx]; exact h.nodisc x
    refine ⟨r1.trans h.g, hnd, fun r hr => ?_⟩
    unfold newLog at hr
    rw [r8] at hr
    split at hr
    · rw [List.drop_append] at hr
      rcases List.mem_append.mp hr with hr | hr
      · exact h.nodeps r hr
      · rw [List.mem_singleton.mp (List.mem_of_mem_drop hr), hnd b]; rfl
    · exact h.nodeps r hr

theorem NoDisc.success {e0 e : Env} (plain : Plain e0.g) (h : NoDisc e0 e) (b : Nat) : NoDisc e0 (onSuccess e b) := by
  cases hb : buildOf e.g b with
  | none => rw [onSuccess_none hb]; exact h
  | some bm =>
    rw [onSuccess_some hb, plain.noDeps b bm (by rw [← h.g]; exact hb)]
    obtain ⟨c1, _, c3, _⟩ := runCommand_frame e b
    refine NoDisc.record ⟨c3.trans h.g, fun x => ?_, fun r hr => h.nodeps r (by rw [← newLog_same c1]; exact hr)⟩ b
    unfold discOf; rw [(runCommand_disc_cache e b).1]; exact h.nodisc x

theorem JS.of_core {e0 : Env} {s : S} {e : Env} (j : JC e0 s e) (h : NoDisc e0 e) : JS e0 s e := by
  refine ⟨h.g, j.hashes, h.nodisc, j.logPre, fun r hr => ⟨h.nodeps r hr, j.newRecs r hr⟩, ?_, j.stable, ?_⟩
  · intro f m _ hm
    rw [← h.g]; exact j.cache f m hm
  · intro b bm hb hbm hnp hall
    rw [← attached_inForce, j.settled b bm hb hbm hnp (fun f hf => hall f (by rw [h.nodisc b] at hf; simpa using hf))]

theorem NoDisc.goodD {e0 e : Env} (h : NoDisc e0 e) (s : S) : GoodD s e :=
  fun b _ f hf => by rw [h.nodisc b] at hf; cases hf

end N2V.Work
