/-
  **A build of an up-to-date tree does nothing** (C03, the "repeated build" clause, for every
  project, target selection, `-j`, `-k`, pool set-up and every scheduling choice of the
  environment): if every step the invocation may consider is up to date — the files it names
  exist and its latest record is the manifest of the files as they are — then `run::build`
  starts no command, writes no record, requests no reload, leaves tree, clock and log exactly as
  they were, and reports `0` tasks ("no work to do") when it succeeds.
-/
import N2V.Lemmas.WorkDisc
import N2V.Lemmas.RunClean
namespace N2V.Work
open N2V N2V.Load N2V.Sched N2V.Run

theorem needs_lt {g : Graph} (gok : GraphOK g) {f b : Nat} (h : Needs g f b) : b < g.nBuilds := by
  induction h with
  | direct hp => exact gok _ _ hp
  | step _ _ _ _ ih2 => exact ih2

/-- Every non-phony step in `W` is up to date, and each of its discovered dependencies that is a
    generated file is generated by a step it (transitively) depends on through ordering inputs —
    otherwise n2 rejects the build ("used generated file .., but has no dependency path to it"). -/
structure AllUpToDate (e0 : Env) (W : Nat → Prop) : Prop where
  utd : ∀ b bm, W b → buildOf e0.g b = some bm → bm.cmdline.isNone = false → UpToDate e0 b bm
  disc : ∀ b bm, W b → buildOf e0.g b = some bm → bm.cmdline.isNone = false →
    ∀ f ∈ discOf e0 b, ∀ p, fileInput e0.g f = some p → Anc (schedGraph e0.g) b p

/-- "Known" builds: their outputs have been stat()ed. -/
def OutsCached (e0 : Env) (e : Env) (p : Nat) : Prop :=
  ∀ o ∈ ((schedGraph e0.g).build p).outs, Cached e o

theorem cleanCheck_upToDate (e0 : Env) (adopt : Bool) (perms : List (List Nat)) (fin : List (Nat × Term))
    (W : Nat → Prop) (hWlt : ∀ b, W b → b < (schedGraph e0.g).nBuilds)
    (dok : DepsOK (schedGraph e0.g)) (hu : AllUpToDate e0 W) :
    CleanCheck (schedGraph e0.g) (choices adopt perms fin) (Grew e0) (OutsCached e0) W := by
  intro e b pe hW hanc
  show (checkDirty e b).1 = some false ∧ Grew e0 (checkDirty e b).2 ∧ OutsCached e0 (checkDirty e b).2 b ∧
    ∀ p, OutsCached e0 e p → OutsCached e0 (checkDirty e b).2 p
  have hlt := hWlt b hW
  rw [sg_nBuilds] at hlt
  obtain ⟨bm, hbm⟩ : ∃ bm, buildOf e0.g b = some bm := ⟨e0.g.builds[b], by unfold buildOf; exact List.getElem?_eq_getElem hlt⟩
  have hbe : buildOf e.g b = some bm := by rw [pe.g]; exact hbm
  -- generated files among the inputs were stat()ed when their producer was dealt with
  have hprodCached : ∀ f p, fileInput e0.g f = some p → Anc (schedGraph e0.g) b p → Cached e f := by
    intro f p hp ha
    exact hanc p ha f (dok.outs f p (by rw [sg_producer]; exact hp))
  have finish : ∀ (r : Option Bool × Env), r.1 = some false → Grew e r.2 → (∀ f ∈ bm.outs, Cached r.2 f) →
      r.1 = some false ∧ Grew e0 r.2 ∧ OutsCached e0 r.2 b ∧ ∀ p, OutsCached e0 e p → OutsCached e0 r.2 p := by
    intro r h1 h2 h3
    refine ⟨h1, pe.trans h2, ?_, ?_⟩
    · intro o ho; rw [sg_outs _ _ _ hbm] at ho; exact h3 o ho
    · intro p hp o ho; exact h2.mono o (hp o ho)
  cases hph : bm.cmdline.isNone with
  | true =>
    obtain ⟨h1, h2, h3⟩ := checkDirty_phony e b bm hbe pe.coh hph
    exact finish _ h1 h2 h3
  | false =>
    have u : UpToDate e b bm := (hu.utd b bm hW hbm hph).same pe.toSameButCache
    have hgen : ∀ f ∈ bm.dirtying ++ discOf e b, (fileInput e.g f).isSome = true → Cached e f := by
      intro f hf hg
      rw [pe.g] at hg
      obtain ⟨p, hp⟩ := Option.isSome_iff_exists.mp hg
      rcases List.mem_append.mp hf with hf | hf
      · apply hprodCached f p hp
        exact Anc.direct (f := f) (by rw [sg_ordering _ _ _ hbm]; exact dirtying_sub_ordering bm f hf)
          (by rw [sg_producer]; exact hp)
      · rw [discOf_same pe.toSameButCache] at hf
        exact hprodCached f p hp (hu.disc b bm hW hbm hph f hf p hp)
    obtain ⟨h1, h2, h3⟩ := checkDirty_upToDate e b bm hbe pe.coh u hgen
    exact finish _ h1 h2 h3

/-- **`run::build` on an up-to-date tree does nothing.** -/
theorem build_upToDate (e0 : Env) (a : Args) (adopt : Bool) (perms : List (List Nat)) (fin : List (Nat × Term))
    (gok : GraphOK (schedGraph e0.g)) (dok : DepsOK (schedGraph e0.g)) (hc : Coh e0)
    (hu : AllUpToDate e0 (Wanted (schedGraph e0.g) a)) :
    let r := build (schedGraph e0.g) a (choices adopt perms fin) e0
    sf r.1.trace = [Ev.load] ∧ r.1.tasksRun = 0 ∧ Grew e0 r.2.1 ∧
    (∀ n, r.2.2 = .done n → n = 0) ∧ (∀ n, r.2.2 ≠ .reload n) := by
  have hWlt : ∀ b, Wanted (schedGraph e0.g) a b → b < (schedGraph e0.g).nBuilds :=
    fun b ⟨_, _, hn⟩ => needs_lt gok hn
  exact build_clean2 (schedGraph e0.g) gok a (choices adopt perms fin) (Grew e0) (OutsCached e0)
    (cleanCheck_upToDate e0 adopt perms fin _ hWlt dok hu) e0 (Grew.refl hc)

theorem loadEnv_frame (w : World) (m : Bytes) (l : Loader) (e0 : Env) (h : loadEnv w m = .ok (l, e0)) :
    e0.cache = [] ∧ e0.fs = w.fs ∧ e0.clock = w.clock ∧ e0.log = w.log :=
  let ⟨_, _, hfs, hclock, hlog, hcache, _⟩ := loadEnv_spec h
  ⟨hcache, hfs, hclock, hlog⟩

theorem coh_of_empty (e : Env) (h : e.cache = []) : Coh e := by
  intro f m hm
  rw [h] at hm
  cases hm

/-- Events of a trace that are commands starting or finishing. -/
def commandEvents (tr : List Ev) : List Ev :=
  tr.filter (fun ev => match ev with | .start _ => true | .finish _ _ => true | _ => false)

theorem commandEvents_sf (tr : List Ev) : commandEvents (sf tr) = commandEvents tr := by
  unfold commandEvents
  induction tr with
  | nil => rfl
  | cons x xs ih => cases x <;> simp [sf, ih]

theorem commandEvents_of_sf (tr : List Ev) (h : sf tr = [Ev.load]) : commandEvents tr.reverse = [] := by
  have : commandEvents tr = [] := by rw [← commandEvents_sf, h]; rfl
  unfold commandEvents at this ⊢
  rw [List.filter_reverse, this]; rfl

/-- **A whole invocation on an up-to-date tree does nothing**: for every argument vector and
    every scheduling behaviour of the environment, if the manifest loads and every step the
    invocation may consider is up to date, then the world afterwards (tree, clock, log) is the
    world before, no command started or finished, and a successful result says `0` tasks. -/
theorem invoke_upToDate (w : World) (a : InvArgs) (obs1 obs2 : List (List Nat) × List (Nat × Sched.Term))
    (l : Loader) (e0 : Env) (hl : loadEnv w a.manifestName = .ok (l, e0))
    (hu : AllUpToDate e0 (Wanted (schedGraph e0.g) (argsOf l a))) :
    (invoke w a obs1 obs2).1 = w ∧
    commandEvents (invoke w a obs1 obs2).2.2 = [] ∧
    (∀ n, (invoke w a obs1 obs2).2.1 = .done n → n = 0) := by
  obtain ⟨_, gok, dok⟩ := loadEnv_graph_ok w a.manifestName l e0 hl
  obtain ⟨hcache, hfs, hclock, hlog⟩ := loadEnv_frame w a.manifestName l e0 hl
  obtain ⟨b1, b2, b3, b4, b5⟩ := build_upToDate e0 (argsOf l a) a.adopt obs1.1 obs1.2 gok dok (coh_of_empty e0 hcache) hu
  unfold invoke
  rw [hl]
  simp only []
  generalize hr : build (schedGraph e0.g) (argsOf l a) (choices a.adopt obs1.1 obs1.2) e0 = r at b1 b2 b3 b4 b5
  obtain ⟨s1, e1, out1⟩ := r
  simp only [] at b1 b2 b3 b4 b5 ⊢
  have hw : ({ fs := e1.fs, clock := e1.clock, log := e1.log } : World) = w := by
    cases w
    simp only [World.mk.injEq]
    exact ⟨b3.fs.trans hfs, b3.clock.trans hclock, b3.log.trans hlog⟩
  have hce := commandEvents_of_sf _ b1
  cases out1 with
  | reload n => exact absurd rfl (b5 n)
  | done n => exact ⟨hw, hce, fun k hk => by cases hk; exact b4 n rfl⟩
  | _ => exact ⟨hw, hce, fun k hk => by cases hk⟩

end N2V.Work
