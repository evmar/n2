/-
  The want phase marks everything a file needs (the other half of "exactly the requested closure"):
  after `Work::want_file f` succeeds, every build that `f` needs through explicit, implicit,
  order-only or validation inputs has left `Unknown`.

  Invariant: every marked build that is not "open" (still inside its own loop over validation
  inputs) has all producers of its ordering and validation inputs marked.
-/
import N2V.Lemmas.SchedClosure
namespace N2V.Sched

/-- Closed except for the builds in `O`: a marked build outside `O` has every producer of an
    ordering or validation input marked. -/
def ClosedX (g : Graph) (s : S) (O : List Nat) : Prop :=
  ∀ b, b ∉ O → s.st b ≠ .unknown → ∀ f ∈ (g.build b).ordering ++ (g.build b).validation,
    ∀ p, g.producer f = some p → s.st p ≠ .unknown

theorem ClosedX.mono {g : Graph} {s : S} {O O' : List Nat} (h : ClosedX g s O) (hs : ∀ x ∈ O, x ∈ O') :
    ClosedX g s O' := fun b hb => h b (fun hx => hb (hs b hx))

theorem ClosedX.of_same_marked {g : Graph} {s s' : S} {O : List Nat} (h : ClosedX g s O)
    (h1 : Mono s s') (h2 : Keeps s s') : ClosedX g s' O :=
  fun b hb hbn f hf p hp => h1 p (h b hb (h2 b hbn) f hf p hp)

/-- Marking `id` opens it: its validation inputs are still to come. -/
theorem ClosedX.open {g : Graph} {s s' : S} {O : List Nat} {id : Nat} {new : St} (h : ClosedX g s O)
    (hn : new ≠ .unknown) (hs : set g s id new = .ok s') : ClosedX g s' (id :: O) := by
  intro b hb hbn f hf p hp
  have hbid : b ≠ id := fun e => hb (by simp [e])
  refine set_mono hn hs p (h b (fun e => hb (by simp [e])) ?_ f hf p hp)
  rwa [set_st_ne hs hbid] at hbn

theorem ClosedX.close {g : Graph} {s : S} {O : List Nat} {id : Nat} (h : ClosedX g s (id :: O))
    (hid : Marks g s ((g.build id).ordering ++ (g.build id).validation)) : ClosedX g s O := by
  intro b hbO hbn
  by_cases e : b = id
  · exact e ▸ hid
  · exact h b (by simp [e, hbO]) hbn

/-- A call of the want phase that succeeds keeps the state closed: `want_build` opens the build
    it marks, by then the producers of its ordering inputs are marked, and closes it when those
    of its validation inputs are. -/
theorem want_closed (g : Graph) :
    WantOk g (fun s _ _ _ s' => ∀ O, ClosedX g s O → ClosedX g s' O)
      (fun s _ _ _ s' => ∀ O, ClosedX g s O → ClosedX g s' O)
      (fun s _ _ _ _ s' => ∀ O, ClosedX g s O → ClosedX g s' O) where
  leaf := fun _ _ hc => hc
  file := fun _ _ hb => hb
  known := fun _ _ hc => hc
  build := fun {_ _ _ id rd _ _ _ _} _ e1 hi hs e2 hv O hc => by
    have k1 := (want_marks g).of_ins e1
    have m3 := (want_monos g).of_ins e2
    have k3 := (want_marks g).of_ins e2
    refine (hv (id :: O) ((hi O hc).open (ready_or_want_ne rd) hs)).close fun f hf p hp => ?_
    rcases List.mem_append.mp hf with hf | hf
    · exact m3 p (set_mono (ready_or_want_ne rd) hs p (k1 f hf p hp))
    · exact k3 f hf p hp
  nil := fun _ hc => hc
  cons := fun _ hf _ hi O hc => hi O (hf O hc)

/-- In a closed state, whatever a marked producer needs is marked. -/
theorem needs_marked {g : Graph} {s : S} (hc : ClosedX g s []) {f b : Nat} (hn : Needs g f b)
    (hf : ∀ p, g.producer f = some p → s.st p ≠ .unknown) : s.st b ≠ .unknown := by
  induction hn with
  | direct hp => exact hf _ hp
  | step _ hin _ ih1 ih2 =>
    have h1 := ih1 hf
    exact ih2 (fun p hp => hc _ (by simp) h1 _ hin p hp)

/-- **`Work::want_file` marks the whole closure**: after it succeeds from a closed state, the
    state is closed again and every build that `f` needs has left `Unknown`. -/
theorem want_complete (g : Graph) (s s' : S) (f : Nat) (hc : ClosedX g s []) (h : want g s f = .ok () s') :
    ClosedX g s' [] ∧ ∀ b, Needs g f b → s'.st b ≠ .unknown :=
  have ⟨_, hc'⟩ := (want_closed g).of_want h
  have ⟨_, hm⟩ := (want_marks g).of_want h
  ⟨hc' [] hc, fun _ hn => needs_marked (hc' [] hc) hn hm⟩

end N2V.Sched

namespace N2V.Run
open N2V N2V.Sched
variable {E : Type} {g : Graph} {a : Args} {c : Choices E}

def Covers (g : Graph) (s : S) (f : Nat) : Prop := ∀ b, Needs g f b → s.st b ≠ .unknown

theorem Covers.mono {s s' : S} {f : Nat} (h : Covers g s f) (m : Mono s s') : Covers g s' f :=
  fun b hn => m b (h b hn)

theorem wantAll_complete (fs : List Nat) : ∀ {s s' : S}, ClosedX g s [] → wantAll g s fs = .ok () s' →
    ClosedX g s' [] ∧ Mono s s' ∧ ∀ f ∈ fs, Covers g s' f := by
  induction fs with
  | nil => intro s s' hc h; cases h; exact ⟨hc, Mono.refl _, nofun⟩
  | cons f fs ih =>
    intro s s' hc h
    unfold wantAll at h
    split at h
    · rename_i s1 hw
      obtain ⟨c1, n1⟩ := want_complete g s s1 f hc hw
      obtain ⟨c2, m2, n2⟩ := ih c1 h
      exact ⟨c2, (want_mono hw).trans m2, fun x hx =>
        (List.mem_cons.mp hx).elim (fun e => e ▸ Covers.mono n1 m2) (n2 x)⟩
    · rename_i hne; exact absurd h (hne () s')

theorem wantTargets_complete (ns : List Bytes) : ∀ {s s' : S}, ClosedX g s [] →
    wantTargets g a s ns = .ok () s' →
    ClosedX g s' [] ∧ Mono s s' ∧
      ∀ n ∈ ns, ∀ t, lookupM g a n = .ok (some t) → t ≠ a.manifest → Covers g s' t := by
  induction ns with
  | nil => intro s s' hc h; cases h; exact ⟨hc, Mono.refl _, nofun⟩
  | cons n ns ih =>
    intro s s' hc h
    unfold wantTargets at h
    -- the head resolves to `t` and leaves the state at `s1`, closed, with `t` covered if it counts
    have key : ∀ {s1}, ClosedX g s1 [] → Mono s s1 → wantTargets g a s1 ns = .ok () s' →
        (∀ t, lookupM g a n = .ok (some t) → t ≠ a.manifest → Covers g s1 t) →
        ClosedX g s' [] ∧ Mono s s' ∧
          ∀ x ∈ n :: ns, ∀ t, lookupM g a x = .ok (some t) → t ≠ a.manifest → Covers g s' t := by
      intro s1 c1 m1 h1 k1
      obtain ⟨c2, m2, n2⟩ := ih c1 h1
      exact ⟨c2, m1.trans m2, fun x hx t ht hne =>
        (List.mem_cons.mp hx).elim (fun e => (k1 t (e ▸ ht) hne).mono m2) (fun hx => n2 x hx t ht hne)⟩
    split at h
    · rename_i hl
      split at h
      · exact key hc (Mono.refl _) h fun t ht => by rw [hl] at ht; cases ht
      · cases h
    · rename_i t hl
      split at h
      · rename_i htm
        exact key hc (Mono.refl _) h fun t' ht hne => by rw [hl] at ht; cases ht; exact absurd htm hne
      · split at h
        · rename_i s1 hw
          obtain ⟨c1, n1⟩ := want_complete g s s1 t hc hw
          exact key c1 (want_mono hw) h fun t' ht _ => by rw [hl] at ht; cases ht; exact n1
        · rename_i hne; exact absurd h (hne () s')
    · cases h
    · cases h

theorem wantedOf_complete {s s' : S} (hc : ClosedX g s []) (h : wantedOf g a s = .ok () s') :
    ClosedX g s' [] ∧ Mono s s' ∧ ∀ f, Requested g a f → f ≠ a.manifest → Covers g s' f := by
  unfold wantedOf at h
  split at h
  · rename_i ht
    obtain ⟨c2, m2, n2⟩ := wantTargets_complete _ hc h
    refine ⟨c2, m2, fun f hf hne => ?_⟩
    rcases hf with h0 | ⟨n, hn, hl⟩ | ⟨hte, _⟩ | ⟨hte, _⟩
    · exact absurd h0 hne
    · exact n2 n hn f hl hne
    all_goals simp [hte] at ht
  · rename_i ht
    have hte : a.targets = [] := by cases h : a.targets with | nil => rfl | cons _ _ => simp [h] at ht
    split at h
    · rename_i hd
      obtain ⟨c2, m2, n2⟩ := wantAll_complete _ hc h
      refine ⟨c2, m2, fun f hf hne => ?_⟩
      rcases hf with h0 | ⟨n, hn, _⟩ | ⟨_, hfd⟩ | ⟨_, hde, _⟩
      · exact absurd h0 hne
      · simp [hte] at hn
      · exact n2 f hfd
      · simp [hde] at hd
    · rename_i hd
      have hde : a.defaults = [] := by cases h : a.defaults with | nil => rfl | cons _ _ => simp [h] at hd
      obtain ⟨c2, m2, n2⟩ := wantAll_complete _ hc h
      refine ⟨c2, m2, fun f hf hne => ?_⟩
      rcases hf with h0 | ⟨n, hn, _⟩ | ⟨_, hfd⟩ | ⟨_, _, hlt⟩
      · exact absurd h0 hne
      · simp [hte] at hn
      · simp [hde] at hfd
      · exact n2 f (by simp [hlt, hne])

/-- A `phase2` that ends in `done` wanted its targets and returns the state of its run. -/
theorem phase2_of_done {s2 : S} {e : E} {perms : List (List Nat)} {fin : List (Nat × Term)} {tb n : Nat}
    (h : (phase2 g a c s2 e perms fin tb).2.2 = .done n) :
    ∃ s3, wantedOf g a s2 = .ok () s3 ∧
      (phase2 g a c s2 e perms fin tb).1 = (runLoop g a.par c (runFuel g) s3 e perms fin).s := by
  rw [phase2_eq] at h ⊢
  cases hw : wantedOf g a s2 with
  | ok u s3 => exact ⟨s3, rfl, by simp only []; split <;> rfl⟩
  | err m s3 => rw [hw] at h; cases h
  | bad m => rw [hw] at h; cases h

/-- A `build` that ends in `done` wanted the manifest, ran nothing for it, and went on to the
    second phase from there. -/
theorem build_of_done {e : E} {n : Nat} (h : (build g a c e).2.2 = .done n) :
    ∃ s1, want g (fresh a) a.manifest = .ok () s1 ∧
      build g a c e = phase2 g a c (runLoop g a.par c (runFuel g) s1 e c.perms c.finishes).s
        (runLoop g a.par c (runFuel g) s1 e c.perms c.finishes).e
        (runLoop g a.par c (runFuel g) s1 e c.perms c.finishes).perms
        (runLoop g a.par c (runFuel g) s1 e c.perms c.finishes).finishes 0 := by
  unfold build at h ⊢
  simp only [] at h ⊢
  revert h
  cases hw : want g (fresh a) a.manifest with
  | ok u s1 =>
    refine fun h => ⟨s1, rfl, ?_⟩
    simp only [] at h ⊢
    split at h
    · split at h
      · cases h
      · rename_i hn; exact if_neg hn
    · exact absurd h (ofRun_ne_done _ _)
  | err m s1 => exact fun h => nomatch h
  | bad m => exact fun h => nomatch h

/-- **A successful `run::build` marked its whole requested closure**: every build that a
    requested file (the manifest; the command-line names that resolve, else the defaults, else
    every file) needs through ordering or validation inputs has left `Unknown`. -/
theorem build_complete {E : Type} {g : Graph} (gok : GraphOK g) (a : Args) (c : Choices E) (e : E) (n : Nat)
    (h : (build g a c e).2.2 = .done n) (b : Nat) (hW : Wanted g a b) : (build g a c e).1.st b ≠ .unknown := by
  obtain ⟨f, hreq, hneeds⟩ := hW
  obtain ⟨s1, hw1, hb⟩ := build_of_done h
  rw [hb] at h ⊢
  obtain ⟨s3, hw3, h3⟩ := phase2_of_done h
  rw [h3]
  apply runLoop_mono
  obtain ⟨c1, n1⟩ := want_complete g (fresh a) s1 a.manifest (fun b _ hb => absurd rfl hb) hw1
  have m1 := runLoop_mono (g := g) (par := a.par) c (runFuel g) s1 e c.perms c.finishes
  have k1 := runLoop_keeps c (runFuel g) s1 e c.perms c.finishes (want_inv gok _ _ _ (fresh_inv g a) hw1).inv
  obtain ⟨-, m3, n3⟩ := wantedOf_complete (c1.of_same_marked m1 k1) hw3
  by_cases hfm : f = a.manifest
  · exact m3 b (m1 b (n1 b (hfm ▸ hneeds)))
  · exact n3 f hreq hfm b hneeds

end N2V.Run
