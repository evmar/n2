/-
  A declarative specification of scheduler traces: what every single observable event must
  satisfy with respect to the history before it.  It is decidable, so the driver evaluates it
  on the trace recorded from the real n2 (monitor `traceSpec`), and Lemmas/SchedTrace proves
  that EVERY trace the model can produce — any graph, arguments, environment behaviour, and
  whatever the outcome — satisfies it.  Props C01/C04/C05/C19 derive their "at every instant"
  statements from it by reasoning about traces alone.
-/
import N2V.Lemmas.SchedDefs
namespace N2V.Sched

/-- Build states reconstructed from a trace (newest event first): the last `set` of a build
    since the last (re)load. -/
def stOf : List Ev → Nat → St
  | [] => fun _ => .unknown
  | .set id _ new _ _ :: tr => upd (stOf tr) id new
  | .load :: _ => fun _ => .unknown
  | _ :: tr => stOf tr

def stateList : List St := [.want, .ready, .queued, .running, .done, .failed]

/-- The six UI counts as they should be for the states `st`. -/
def exactCounts (g : Graph) (st : Nat → St) : List Int :=
  stateList.map (fun x => (cnt g.nBuilds (fun b => st b == x && !(g.build b).phony) : Int))

/-- The state transitions n2 makes.  Nothing leaves `Done`/`Failed`, nothing returns to
    `Unknown`, a command starts only from `Queued`, finishes only from `Running`. -/
def legal : St → St → Bool
  | .unknown, .want | .unknown, .ready | .want, .want | .want, .ready
  | .ready, .queued | .ready, .done | .queued, .running | .running, .done | .running, .failed => true
  | _, _ => false

/-- Every ordering input of `b` that some build produces has that build `Done`. -/
def directDone (g : Graph) (st : Nat → St) (b : Nat) : Bool :=
  (g.build b).ordering.all (fun f => match g.producer f with | none => true | some p => st p == .done)

/-- `-j` and every pool depth are respected by the states `st`. -/
def withinLimits (g : Graph) (par : Nat) (shape : List (Bytes × Nat)) (st : Nat → St) : Bool :=
  decide (cnt g.nBuilds (fun x => st x == .running) ≤ par) &&
  shape.all (fun nd => nd.2 == 0 ||
    decide (cnt g.nBuilds (fun x => st x == .running && (g.build x).pool == nd.1) ≤ nd.2))

/-- What one event must satisfy after the history `tr`.  `shape` = pool names and depths. -/
def okEv (g : Graph) (par : Nat) (shape : List (Bytes × Nat)) (tr : List Ev) : Ev → Bool
  | .set id prev new cs pend =>
    decide (id < g.nBuilds) && prev == stOf tr id && legal prev new &&
    cs == exactCounts g (upd (stOf tr) id new) &&
    pend == (cnt g.nBuilds (fun b => active (upd (stOf tr) id new b)) : Int) &&
    (new != .ready || directDone g (stOf tr) id) &&
    (new != .running || withinLimits g par shape (upd (stOf tr) id new))
  | .update cs => cs == exactCounts g (stOf tr)
  | .start b =>
    (match tr with | .set b' .queued .running _ _ :: _ => b' == b | _ => false) &&
    withinLimits g par shape (stOf tr) &&
    shape.any (fun nd => nd.1 == (g.build b).pool) &&
    directDone g (stOf tr) b
  | .finish b _ => stOf tr b == .running
  | .load => true

def okTrace (g : Graph) (par : Nat) (shape : List (Bytes × Nat)) : List Ev → Bool
  | [] => true
  | e :: tr => okEv g par shape tr e && okTrace g par shape tr

def poolShape (ps : List Pool) : List (Bytes × Nat) := ps.map (fun p => (p.name, p.depth))

end N2V.Sched
