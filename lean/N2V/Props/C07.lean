/-
  C07 — The build log survives a crash at any point.
  (Reader after the repair of finding F5: stop at the first record cut short, report the intact
  length, truncate to it before appending.)
-/
import N2V.Lemmas.Db
namespace N2V.C07
open N2V N2V.Db

/-- A record written completely is read back exactly, whatever follows it. -/
theorem record_roundtrip (r : Rec) (rest : Bytes) (hf : r.fits) :
    decodeRec (encode r ++ rest) = some (r, rest) := decodeRec_encode r rest hf

/-- A record of which only `k < len` bytes reached the file is not read at all (it cannot be
    mistaken for a shorter record). -/
theorem torn_record_ignored (r : Rec) (hf : r.fits) (k : Nat) (hk : k < (encode r).length) :
    decodeRec ((encode r).take k) = none := decodeRec_torn r hf k hk

/-- **Every byte prefix of every log.**  If the file is a sequence of complete records followed
    by the first `k` bytes of one more record (the write during which the process died), the next
    invocation loads exactly the complete records and knows where the intact part ends. -/
theorem every_prefix (rs : List Rec) (hfit : ∀ r ∈ rs, r.fits) (r : Rec) (hf : r.fits) (k : Nat)
    (hk : k < (encode r).length) :
    parse (encodeLog rs ++ (encode r).take k) = .ok rs (encodeLog rs).length :=
  parse_log_torn rs hfit _ (decodeRec_torn r hf k hk)

/-- The same with no torn tail. -/
theorem complete (rs : List Rec) (hfit : ∀ r ∈ rs, r.fits) :
    parse (encodeLog rs) = .ok rs (encodeLog rs).length := by
  have := parse_log_torn rs hfit [] (by rfl)
  simpa using this

/-- A crash while the 8-byte signature itself was being written leaves a file that is treated
    as a new, empty log (not as corrupt). -/
theorem torn_signature (k : Fin 8) : parse (signature.take k.val) = .empty := by
  revert k; decide

/-- Reopen and append: after the torn tail is dropped (truncate to the reported length) and new
    records are appended, every later invocation loads the surviving records followed by the new
    ones — the log stays loadable for ever. -/
theorem reopen_append (rs new : List Rec) (hfit : ∀ r ∈ rs, r.fits) (hnew : ∀ r ∈ new, r.fits)
    (r : Rec) (hf : r.fits) (k : Nat) (hk : k < (encode r).length) :
    let file := encodeLog rs ++ (encode r).take k
    ∀ n, parse file = .ok rs n →
      parse (file.take n ++ new.flatMap encode) = .ok (rs ++ new) (file.take n ++ new.flatMap encode).length := by
  intro file n hp
  have h1 := every_prefix rs hfit r hf k hk
  rw [h1] at hp
  cases hp
  have ht : file.take (encodeLog rs).length = encodeLog rs := List.take_left' rfl
  rw [ht]
  have : encodeLog rs ++ new.flatMap encode = encodeLog (rs ++ new) := by
    simp [encodeLog, List.flatMap_append]
  rw [this]
  exact complete (rs ++ new) (fun x hx => by
    rcases List.mem_append.mp hx with h | h
    · exact hfit x h
    · exact hnew x h)

/-- One invocation as the log file sees it: the records whose append completed, then possibly the
    record during whose append the process died (with the number of bytes that reached the file);
    `sigCut`: if the signature had to be (re)written and the process died after `k < 8` bytes of
    it (nothing else is written then). -/
structure Inv1 where
  new : List Rec
  torn : Option (Rec × Nat)
  sigCut : Option Nat

def tornBytes : Option (Rec × Nat) → Bytes
  | none => []
  | some (r, k) => (encode r).take k

def Inv1.WF (i : Inv1) : Prop :=
  (∀ r ∈ i.new, r.fits) ∧ (∀ r k, i.torn = some (r, k) → r.fits ∧ k < (encode r).length) ∧
  (∀ k, i.sigCut = some k → k < 8)

/-- `db::open` + the appends of one invocation: read the file, keep its intact prefix (write a
    fresh signature if there is none), append.  `none`: the file is refused (foreign signature or
    version). -/
def runInv (file : Bytes) (i : Inv1) : Option Bytes :=
  match parse file with
  | .ok _ n => some (file.take n ++ i.new.flatMap encode ++ tornBytes i.torn)
  | .empty =>
    match i.sigCut with
    | some k => some (signature.take k)
    | none => some (signature ++ i.new.flatMap encode ++ tornBytes i.torn)
  | _ => none

def runInvs : Bytes → List Inv1 → Option Bytes
  | file, [] => some file
  | file, i :: is => match runInv file i with
    | some f' => runInvs f' is
    | none => none

/-- The records whose append completed, over a history (an invocation that died inside the
    signature appended nothing). -/
def completed : Bytes → List Inv1 → List Rec
  | _, [] => []
  | file, i :: is =>
    match parse file, i.sigCut with
    | .empty, some k => completed (signature.take k) is
    | .empty, none => i.new ++ completed (signature ++ i.new.flatMap encode ++ tornBytes i.torn) is
    | .ok _ n, _ => i.new ++ completed (file.take n ++ i.new.flatMap encode ++ tornBytes i.torn) is
    | _, _ => []

/-- The shapes a log file can have: complete records followed by a strict prefix of one more
    record, or (nothing completed yet) a strict prefix of the signature. -/
def LogShape (file : Bytes) (rs : List Rec) : Prop :=
  ((∀ r ∈ rs, r.fits) ∧ ∃ t, file = encodeLog rs ++ tornBytes t ∧ ∀ r k, t = some (r, k) → r.fits ∧ k < (encode r).length) ∨
  (rs = [] ∧ ∃ k, k < 8 ∧ file = signature.take k)

theorem tornBytes_torn (t : Option (Rec × Nat)) (ht : ∀ r k, t = some (r, k) → r.fits ∧ k < (encode r).length) :
    decodeRec (tornBytes t) = none := by
  cases t with
  | none => rfl
  | some p => exact decodeRec_torn p.1 (ht p.1 p.2 rfl).1 p.2 (ht p.1 p.2 rfl).2

theorem shape_parse (file : Bytes) (rs : List Rec) (h : LogShape file rs) :
    parse file = .ok rs (encodeLog rs).length ∨ (rs = [] ∧ parse file = .empty) := by
  rcases h with ⟨hfit, t, rfl, ht⟩ | ⟨hrs, k, hk, rfl⟩
  · exact Or.inl (parse_log_torn rs hfit _ (tornBytes_torn t ht))
  · exact Or.inr ⟨hrs, torn_signature ⟨k, hk⟩⟩

/-- One invocation keeps the shape, and `completed` counts exactly the records `new` it added. -/
theorem runInv_shape (file : Bytes) (rs : List Rec) (h : LogShape file rs) (i : Inv1) (hw : i.WF) :
    ∃ file' new, runInv file i = some file' ∧ LogShape file' (rs ++ new) ∧
      ∀ is, completed file (i :: is) = new ++ completed file' is := by
  obtain ⟨hnew, htorn, hsig⟩ := hw
  have happ : ∀ (base : List Rec), (∀ r ∈ base, r.fits) →
      LogShape (encodeLog base ++ i.new.flatMap encode ++ tornBytes i.torn) (base ++ i.new) := by
    intro base hb
    refine Or.inl ⟨fun r hr => (List.mem_append.mp hr).elim (hb r) (hnew r), i.torn, ?_, htorn⟩
    rw [encodeLog, encodeLog, List.flatMap_append, List.append_assoc signature]
  rcases h with ⟨hfit, t, rfl, ht⟩ | ⟨rfl, k, hk, rfl⟩
  · -- an intact (possibly torn-tailed) log: truncate to the complete records, append
    have hp := parse_log_torn rs hfit _ (tornBytes_torn t ht)
    refine ⟨_, i.new, ?_, happ rs hfit, fun is => ?_⟩
    · rw [runInv, hp]; dsimp only; rw [List.take_left' rfl]
    · rw [completed, hp]; dsimp only; rw [List.take_left' rfl]
  · have hp := torn_signature ⟨k, hk⟩
    cases hs : i.sigCut with
    | some k' =>
      refine ⟨signature.take k', [], by rw [runInv, hp, hs], Or.inr ⟨rfl, k', hsig k' hs, rfl⟩, fun is => ?_⟩
      rw [completed, hp, hs]; rfl
    | none =>
      refine ⟨_, i.new, by rw [runInv, hp, hs]; rfl, happ [] (List.forall_mem_nil _), fun is => ?_⟩
      rw [completed, hp, hs]; rfl

/-- **The log survives every history of invocations and crashes.**  Starting from no file, after
    ANY sequence of invocations — each appending any records that fit the format, each possibly
    dying after any number of bytes of a record (or of the signature) — the file is never refused,
    has the shape "complete records + strict prefix of one more" and the next start-up loads
    exactly the records whose append completed, in order (`completed`), nothing else. -/
theorem survives_every_history (is : List Inv1) (hw : ∀ i ∈ is, i.WF) :
    ∀ (file : Bytes) (rs : List Rec), LogShape file rs →
    ∃ file', runInvs file is = some file' ∧ LogShape file' (rs ++ completed file is) ∧
      (parse file' = .ok (rs ++ completed file is) (encodeLog (rs ++ completed file is)).length ∨
       (rs ++ completed file is = [] ∧ parse file' = .empty)) := by
  suffices key : ∀ (file : Bytes) (rs : List Rec), LogShape file rs →
      ∃ file', runInvs file is = some file' ∧ LogShape file' (rs ++ completed file is) from
    fun file rs h => (key file rs h).imp fun f' ⟨h1, h2⟩ => ⟨h1, h2, shape_parse _ _ h2⟩
  induction is with
  | nil => exact fun file rs h => ⟨file, rfl, by rw [completed, List.append_nil]; exact h⟩
  | cons i is ih =>
    intro file rs h
    obtain ⟨f1, new, hr1, hsh, hc⟩ := runInv_shape file rs h i (hw i (List.mem_cons_self ..))
    obtain ⟨f2, hr2, hs2⟩ := ih (fun x hx => hw x (List.mem_cons_of_mem _ hx)) f1 (rs ++ new) hsh
    exact ⟨f2, by rw [runInvs, hr1]; exact hr2, by rw [hc, ← List.append_assoc]; exact hs2⟩

/-- From no file at all. -/
theorem survives_from_scratch (is : List Inv1) (hw : ∀ i ∈ is, i.WF) :
    ∃ file', runInvs [] is = some file' ∧
      (parse file' = .ok (completed [] is) (encodeLog (completed [] is)).length ∨
       (completed [] is = [] ∧ parse file' = .empty)) := by
  obtain ⟨f, h1, _, h3⟩ := survives_every_history is hw [] [] (Or.inr ⟨rfl, 0, by decide, rfl⟩)
  exact ⟨f, h1, by simpa using h3⟩

/-- Non-vacuity: a concrete two-record log cut in the middle of its build record. -/
example : parse (encodeLog [.path [97], .build [0] [] 7] |>.take 14) = .ok [.path [97]] 11 := by decide

end N2V.C07
