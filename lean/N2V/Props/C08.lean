/-
  C08 — Log records follow steps by output name across manifest edits.
-/
import N2V.Lemmas.Db
namespace N2V.C08
open N2V N2V.Db

theorem attrib_obsolete (producer : Bytes → Option Nat) (outs : List Bytes) (u : Option Nat) :
    attrib producer outs u true = u := by
  induction outs generalizing u with
  | nil => rfl
  | cons o os ih => simp [attrib, ih]

/-- `attrib` answers `b` exactly when every output belongs to `b`, and so does the step found so
    far, if there is one. -/
theorem attrib_eq_some (producer : Bytes → Option Nat) (outs : List Bytes) (u : Option Nat) (b : Nat) :
    attrib producer outs u false = some b ↔
      (∀ o ∈ outs, producer o = some b) ∧ (u = some b ∨ (u = none ∧ outs ≠ [])) := by
  induction outs generalizing u with
  | nil => simp [attrib]
  | cons o os ih =>
    rw [attrib, if_neg Bool.false_ne_true, List.forall_mem_cons]
    cases hp : producer o with
    | none =>
      dsimp only
      rw [attrib_obsolete]
      constructor
      · exact fun h => nomatch h
      · rintro ⟨⟨h, -⟩, -⟩
        cases h
    | some x =>
      cases u with
      | none =>
        dsimp only
        rw [ih]
        constructor
        · rintro ⟨hall, h | ⟨h, -⟩⟩
          · exact ⟨⟨h, hall⟩, Or.inr ⟨rfl, List.cons_ne_nil _ _⟩⟩
          · cases h
        · rintro ⟨⟨h, hall⟩, -⟩
          exact ⟨hall, Or.inl h⟩
      | some u' =>
        dsimp only
        by_cases hux : u' = x
        · rw [if_pos hux, ih, hux]
          constructor
          · rintro ⟨hall, h | ⟨h, -⟩⟩
            · exact ⟨⟨h, hall⟩, Or.inl h⟩
            · cases h
          · rintro ⟨⟨h, hall⟩, -⟩
            exact ⟨hall, Or.inl h⟩
        · rw [if_neg hux, attrib_obsolete]
          constructor
          · exact fun h => nomatch h
          · rintro ⟨⟨hx, -⟩, h | ⟨h, -⟩⟩
            · exact absurd ((Option.some.inj h).trans (Option.some.inj hx).symm) hux
            · cases h

/-- **Attribution** (after the repair of finding F6): a record is applied to a step only if
    EVERY output named in it is currently produced by that one step. -/
theorem attribution (producer : Bytes → Option Nat) (outs : List Bytes) (b : Nat)
    (h : attributeRec producer outs = some b) : outs ≠ [] ∧ ∀ o ∈ outs, producer o = some b := by
  obtain ⟨hall, hu | ⟨-, hne⟩⟩ := (attrib_eq_some producer outs none b).mp h
  · cases hu
  · exact ⟨hne, hall⟩

/-- Conversely a record all of whose outputs belong to one step IS applied to it: edits that
    keep a step's outputs (reordering statements, other steps, renamed rules or variables,
    comments, includes) do not detach its record — ids in the log are resolved through names. -/
theorem attribution_complete (producer : Bytes → Option Nat) (outs : List Bytes) (b : Nat)
    (hne : outs ≠ []) (hall : ∀ o ∈ outs, producer o = some b) : attributeRec producer outs = some b :=
  (attrib_eq_some producer outs none b).mpr ⟨hall, Or.inr ⟨rfl, hne⟩⟩

/-- Moving an output to another step, or dropping it, makes the old record unusable rather than
    misapplied. -/
theorem moved_output_unusable (producer : Bytes → Option Nat) (outs : List Bytes) (o : Bytes) (b : Nat)
    (ho : o ∈ outs) (hmoved : producer o ≠ some b) : attributeRec producer outs ≠ some b := by
  intro h
  exact hmoved ((attribution producer outs b h).2 o ho)

/-- Latest wins: once a record is attributed to a step it is the one in force for that step. -/
theorem latest_wins (producer : Bytes → Option Nat) (st st' : LoadState) (outs deps : List Nat) (hash b : Nat)
    (os ds : List Bytes) (ho : namesOf st.names outs = .ok os) (hd : namesOf st.names deps = .ok ds)
    (ha : attributeRec producer os = some b)
    (h : loadRec producer st (.build outs deps hash) = .ok st') :
    latest st' b = some ⟨os, ds, hash⟩ := by
  unfold loadRec at h
  simp [ho, hd, ha] at h
  subst h
  simp [latest]

/-- What is written is what is read, for any number of outputs and dependencies within the
    field widths, any path bytes (the payload of C07's round trip). -/
theorem roundtrip (r : Rec) (rest : Bytes) (hf : r.fits) :
    decodeRec (encode r ++ rest) = some (r, rest) := decodeRec_encode r rest hf

/-- Beyond the field widths nothing is written at all (repair of finding F7), so the log is never
    mis-framed; the step simply has no record and stays dirty. -/
theorem oversize_writes_nothing (known outs deps : List Bytes) (hash : Nat)
    (h : outs.length ≥ 0x8000 ∨ deps.length ≥ 0x10000) :
    writeBuild known outs deps hash = ([], known) := by
  unfold writeBuild; simp [h]

/-- Non-vacuity / F6 witness: a record for `[a, b]` is not applied to a step that now produces
    only `a`, in either output order. -/
example : attributeRec (fun n => if n = [97] then some 0 else none) [[97], [98]] = none := by decide
example : attributeRec (fun n => if n = [97] then some 0 else none) [[98], [97]] = none := by decide

end N2V.C08
