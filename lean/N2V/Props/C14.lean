/-
  C14 — Each file has at most one producing step.
-/
import N2V.Model.Load
import N2V.Lemmas.LoadInv
import N2V.Lemmas.LoadTotal
namespace N2V.C14
open N2V N2V.Load

theorem modFile_input_other (files : List FileM) (o i : Nat) (f : FileM → FileM) (h : i ≠ o) :
    (modFile files o f)[i]? = files[i]? := by
  rw [modFile_get, if_neg h]

theorem modFile_length (files : List FileM) (o : Nat) (f : FileM → FileM) :
    (modFile files o f).length = files.length := modFile_len files o f

/-- If any output of the new statement is already produced by ANOTHER build, `add_build`'s
    output loop fails (it can only fail, never silently take the file over).  Claiming only
    writes `newId`, so the offending entry is still there when the loop reaches it. -/
theorem claimOuts_rejects (newId : Nat) (loc : Loc) (builds : List BuildM) (outs : List Nat)
    (files : List FileM) (dup : Nat) (o prev : Nat) (f : FileM)
    (ho : o ∈ outs) (hf : files[o]? = some f) (hin : f.input = some prev) (hne : prev ≠ newId) :
    ∃ e, claimOuts newId loc builds outs files dup = .error e := by
  cases h : claimOuts newId loc builds outs files dup with
  | error e => exact ⟨e, rfl⟩
  | ok r =>
    -- a loop that succeeds found every output unclaimed or claimed by `newId`
    obtain ⟨fm, hfm, hc⟩ := (claimOuts_spec _ _ _ _ _ _ r.1 r.2 h).2.2.1 o ho
    rw [hf] at hfm; cases hfm
    rw [hin] at hc
    rcases hc with hc | hc
    · cases hc
    · exact absurd (Option.some.inj hc) hne

/-- **Second producer rejected**: a build statement naming an output that another statement
    already produces does not enter the graph. -/
theorem second_rejected (g : GraphM) (b : BuildM) (o prev : Nat) (f : FileM)
    (ho : o ∈ b.outs) (hf : g.files[o]? = some f) (hin : f.input = some prev)
    (hne : prev ≠ g.builds.length) : ∃ e, addBuild g b = .error e := by
  cases h : addBuild g b with
  | error e => exact ⟨e, rfl⟩
  | ok r =>
    obtain ⟨fm, hfm, hc⟩ := (addBuild_ok (g' := r.1) (w := r.2) h).2.2.2 o ho
    rw [hf] at hfm; cases hfm
    rw [hin] at hc
    rcases hc with hc | hc
    · cases hc
    · exact absurd (Option.some.inj hc) hne

/-- `remove_duplicates` leaves no id twice. -/
theorem removeDups_nodup (l : List Nat) (e : Nat) : (removeDups l 0 [] e []).1.Nodup :=
  Load.removeDups_nodup l e

/-- The ids that survive are those of the statement, each once. -/
theorem removeDups_mem (l : List Nat) (e : Nat) (x : Nat) :
    x ∈ (removeDups l 0 [] e []).1 ↔ x ∈ l := Load.removeDups_mem l e x

/-- Latent helper defect (not observable through C14: `explicit_outs()` is only used before
    de-duplication): for `[a, a, a]` with 3 explicit outputs, `explicit` ends at 2 although one
    id is left. -/
theorem removeDups_explicit_counterexample : removeDups [1, 1, 1] 0 [] 3 [] = ([1], 2) := by decide

/-- Non-vacuity: `build a b: r` then `build a: r` is rejected citing both statements. -/
def g0 : GraphM := { files := [⟨[97], none, []⟩, ⟨[98], none, []⟩], builds := [] }
def b0 : BuildM := BuildM.mk ⟨[109], 1⟩ none none none false none none [] 0 0 0 [0, 1] 2 false false
def b1 : BuildM := BuildM.mk ⟨[109], 2⟩ none none none false none none [] 0 0 0 [0] 1 false false

example :
    (match addBuild g0 b0 with
     | .ok (g1, _) => (match addBuild g1 b1 with
        | .error (.dupOutput n here there) => n == [97] && here.line == 2 && there.line == 1
        | _ => false)
     | _ => false) = true := by
  decide

/-- **At most one producing step, for every loaded manifest.**  Whatever the file system holds and
    however `include` / `subninja` nest: in the graph a successful load returns, an output listed by
    two build statements is listed by the same statement; a file's recorded producer lists that file;
    every output's recorded producer is the statement listing it; no statement lists an output twice
    (a repeated output is kept once); and no two graph nodes carry the same name. -/
theorem at_most_one_producer (fs : Fs) (main : Bytes) (l : Loader) (h : load fs main = .ok l) :
    (∀ (p q : Nat) (bp bq : BuildM) (o : Nat), l.graph.builds[p]? = some bp → l.graph.builds[q]? = some bq →
        o ∈ bp.outs → o ∈ bq.outs → p = q) ∧
    (∀ (f : Nat) (fm : FileM) (p : Nat), l.graph.files[f]? = some fm → fm.input = some p →
        ∃ bm : BuildM, l.graph.builds[p]? = some bm ∧ f ∈ bm.outs) ∧
    (∀ (p : Nat) (bm : BuildM), l.graph.builds[p]? = some bm → ∀ o ∈ bm.outs,
        ∃ fm : FileM, l.graph.files[o]? = some fm ∧ fm.input = some p) ∧
    (∀ (p : Nat) (bm : BuildM), l.graph.builds[p]? = some bm → bm.outs.Nodup) ∧
    (∀ (i j : Nat) (fi fj : FileM), l.graph.files[i]? = some fi → l.graph.files[j]? = some fj →
        fi.name = fj.name → i = j) := by
  have inv := load_inv false fs main l h
  exact ⟨fun p q bp bq o => inv.unique_producer p q bp bq o, inv.prod, inv.outs, inv.nodup, inv.names⟩

/-- One statement entering the graph keeps all of that (the step the load theorem iterates). -/
theorem add_build_keeps_one_producer (g : GraphM) (b : BuildM) (g' : GraphM) (w : Nat) (inv : GInv g)
    (hins : ∀ i ∈ b.ins, i < g.files.length) (h : addBuild g b = .ok (g', w)) : GInv g' :=
  addBuild_inv g b g' w inv hins h

/-- Non-vacuity: the graph after `build a b: r` satisfies the invariant and has a producer. -/
example : ∃ g1 w, addBuild g0 b0 = .ok (g1, w) ∧ g1.files[0]? = some ⟨[97], some 0, []⟩ :=
  ⟨_, _, rfl, rfl⟩

open N2V.Eval in
/-- **A second statement for the same output is rejected by the loader** (statement level): when
    the paths of a `build` statement have been evaluated and interned and one of its outputs is a
    file that an earlier statement (of this or of any included file - the graph is shared)
    already produces, `Loader::add_build` fails, whatever else the statement says; with
    `C10.manifest_read_as_written` the whole load fails (`applyItems` propagates the error) and
    nothing is scheduled. -/
theorem duplicate_output_statement_is_rejected (l l1 l2 : Loader) (file : Bytes) (vars : StrMap) (b : Parse.PBuild)
    (ins outs : List Nat)
    (h1 : evalPaths l [envOfEval b.vars, envOfStr vars] b.ins = .ok (l1, ins))
    (h2 : evalPaths l1 [envOfEval b.vars, envOfStr vars] b.outs = .ok (l2, outs))
    (o prev : Nat) (f : FileM) (ho : o ∈ outs) (hf : l2.graph.files[o]? = some f) (hin : f.input = some prev)
    (hne : prev ≠ l2.graph.builds.length) :
    ∃ e, loaderAddBuild l file vars b = .error e := by
  cases hl : loaderAddBuild l file vars b with
  | error e => exact ⟨e, rfl⟩
  | ok l' =>
    obtain ⟨l1', l2', ins', outs', bm, w, e1, e2, _, hbo, hab⟩ := loaderAddBuild_ok hl
    rw [h1] at e1; cases e1
    rw [h2] at e2; cases e2
    obtain ⟨e, he⟩ := second_rejected l2.graph bm o prev f (by rw [hbo]; exact ho) hf hin hne
    rw [he] at hab; cases hab

end N2V.C14
