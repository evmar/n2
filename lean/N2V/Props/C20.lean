/-
  C20 — Status rendering never breaks the build.
  Property theorems about `N2V.Render` (model of progress_fancy.rs's pure helpers).
  All statements hold for arbitrary byte strings, not only valid UTF-8.
-/
import N2V.Model.Render
namespace N2V.C20
open N2V N2V.Render

theorem boundaryAtOrBelow_le (s : Bytes) (m : Nat) : boundaryAtOrBelow s m ≤ m := by
  induction m with
  | zero => exact Nat.le_refl 0
  | succ m ih =>
    rw [boundaryAtOrBelow]
    by_cases h : isCharBoundary s (m + 1) = true
    · rw [if_pos h]; exact Nat.le_refl _
    · rw [if_neg h]; exact Nat.le_succ_of_le ih

theorem boundaryAtOrBelow_boundary (s : Bytes) (m : Nat) :
    isCharBoundary s (boundaryAtOrBelow s m) = true := by
  induction m with
  | zero => rfl
  | succ m ih =>
    rw [boundaryAtOrBelow]
    by_cases h : isCharBoundary s (m + 1) = true
    · rw [if_pos h]; exact h
    · rw [if_neg h]; exact ih

theorem isCharBoundary_length (s : Bytes) : isCharBoundary s s.length = true := by
  unfold isCharBoundary
  split
  · rfl
  · simp

/-- `truncate` returns a prefix of its argument, of at most `max` bytes, that ends on a character
    boundary. -/
theorem truncate_spec (s : Bytes) (max : Nat) :
    truncate s max <+: s ∧ (truncate s max).length ≤ max ∧
      isCharBoundary s (truncate s max).length = true := by
  unfold truncate
  by_cases h : max ≥ s.length
  · rw [if_pos h]; exact ⟨List.prefix_refl s, h, isCharBoundary_length s⟩
  · rw [if_neg h]
    have hb := boundaryAtOrBelow_le s max
    have hl : (s.take (boundaryAtOrBelow s max)).length = boundaryAtOrBelow s max := by
      rw [List.length_take]; exact Nat.min_eq_left (Nat.le_trans hb (Nat.le_of_lt (Nat.lt_of_not_ge h)))
    rw [hl]
    exact ⟨List.take_prefix _ s, hb, boundaryAtOrBelow_boundary s max⟩

theorem stringTruncate_ok (s : Bytes) (n : Nat) (hb : isCharBoundary s n = true) :
    stringTruncate s n = .ok (s.take n) := by
  unfold stringTruncate
  by_cases h : n > s.length
  · rw [if_pos h, List.take_of_length_le (Nat.le_of_lt h)]
  · rw [if_neg h, if_pos hb]

/-- Closed form of the (repaired) `task_message`: it always returns normally. -/
theorem with_eq (msg note : Bytes) (cols : Nat) :
    taskMessageWith msg note cols = .ok
      (if msg.length + note.length ≥ cols
       then msg.take (truncate msg (cols - (note.length + 3))).length ++ ellipsis ++ note
       else msg ++ note) := by
  unfold taskMessageWith
  split
  · simp only [stringTruncate_ok _ _ (truncate_spec msg _).2.2]
  · rfl

/-- `task_message` never panics, whatever the message bytes, elapsed time and width
    (finding F9: before the repair `String::truncate` was called at a raw byte index). -/
theorem taskMessage_no_panic (msg : Bytes) (secs cols : Nat) :
    ∃ t, taskMessage msg secs cols = .ok t := ⟨_, with_eq _ _ _⟩

theorem noteFor_fits (secs cols : Nat) (hc : 3 ≤ cols) : (noteFor secs cols).length + 3 ≤ cols := by
  unfold noteFor
  by_cases h : (timeNote secs).length + 3 > cols
  · rw [if_pos h]; exact hc
  · rw [if_neg h]; exact Nat.le_of_not_gt h

theorem with_fits (msg note : Bytes) (cols : Nat) (t : Bytes) (hnote : note.length + 3 ≤ cols)
    (h : taskMessageWith msg note cols = .ok t) : t.length ≤ cols := by
  rw [with_eq] at h
  cases h
  by_cases hge : msg.length + note.length ≥ cols
  · have hl := Nat.add_le_of_le_sub hnote (truncate_spec msg (cols - (note.length + 3))).2.1
    rw [if_pos hge, List.length_append, List.length_append, Nat.add_assoc, Nat.add_comm ellipsis.length]
    exact Nat.le_trans (Nat.add_le_add_right (List.length_take_le ..) _) hl
  · rw [if_neg hge, List.length_append]
    exact Nat.le_of_lt (Nat.lt_of_not_ge hge)

/-- The rendered task line fits the terminal: at most `cols` bytes, for every width ≥ 3
    (n2 only accepts widths ≥ 10). -/
theorem taskMessage_fits (msg : Bytes) (secs cols : Nat) (t : Bytes) (hc : 3 ≤ cols)
    (h : taskMessage msg secs cols = .ok t) : t.length ≤ cols :=
  with_fits _ _ _ _ (noteFor_fits secs cols hc) h

/-- The cut happens on a character boundary of the message: the result is a boundary-aligned
    prefix of the message, then `...`, then the time note (or nothing). -/
theorem taskMessage_shape (msg : Bytes) (secs cols : Nat) (t : Bytes)
    (h : taskMessage msg secs cols = .ok t) :
    ∃ k, isCharBoundary msg k = true ∧ k ≤ msg.length ∧
      (t = msg.take k ++ ellipsis ++ noteFor secs cols ∨ t = msg ++ noteFor secs cols) := by
  unfold taskMessage at h
  rw [with_eq] at h
  cases h
  by_cases hge : msg.length + (noteFor secs cols).length ≥ cols
  · rw [if_pos hge]
    exact ⟨_, (truncate_spec msg _).2.2, (truncate_spec msg _).1.length_le, Or.inl rfl⟩
  · rw [if_neg hge]
    exact ⟨0, rfl, Nat.zero_le _, Or.inr rfl⟩

theorem barStep_len (B total : Nat) (acc : Nat × Bytes) (seg : Nat × UInt8)
    (hacc : acc.2.length ≤ B) (hsum : acc.1 + seg.1 ≤ total) (ht : 0 < total) :
    (barStep B total acc seg).2.length ≤ B ∧
      (acc.1 + seg.1 = total → (barStep B total acc seg).2.length = B) := by
  have h0 : (acc.1 + seg.1) * B / total ≤ B := Nat.div_le_of_le_mul (Nat.mul_le_mul_right B hsum)
  unfold barStep
  dsimp only
  rw [List.length_append, List.length_replicate, Nat.add_comm acc.2.length, Nat.sub_add_eq_max]
  split
  · rename_i hc
    have hlt : (acc.1 + seg.1) * B / total < B := of_decide_eq_true (Bool.and_eq_true_iff.mp hc).2
    refine ⟨Nat.max_le.mpr ⟨hlt, hacc⟩, fun e => ?_⟩
    rw [e, Nat.mul_div_cancel_left B ht] at hlt
    exact absurd hlt (Nat.lt_irrefl _)
  · refine ⟨Nat.max_le.mpr ⟨h0, hacc⟩, fun e => ?_⟩
    rw [e, Nat.mul_div_cancel_left B ht]
    exact Nat.max_eq_left hacc

/-- The bar grows to exactly its width when the segments' counts add up to the total. -/
theorem foldl_barStep_length (B total : Nat) (ht : 0 < total) (segs : List (Nat × UInt8)) (hne : segs ≠ [])
    (acc : Nat × Bytes) (hacc : acc.2.length ≤ B) (hsum : acc.1 + (segs.map (·.1)).sum = total) :
    (segs.foldl (barStep B total) acc).2.length = B := by
  induction segs generalizing acc with
  | nil => exact absurd rfl hne
  | cons seg rest ih =>
    rw [List.map_cons, List.sum_cons, ← Nat.add_assoc] at hsum
    obtain ⟨hle, hfin⟩ := barStep_len B total acc seg hacc (hsum ▸ Nat.le_add_right ..) ht
    cases rest with
    | nil => exact hfin hsum
    | cons seg' rest => exact ih (List.cons_ne_nil _ _) _ hle hsum

/-- The bar is exactly its nominal width, for every count vector and every width. -/
theorem progressBar_width (c : Counts) (n : Nat) : (progressBar c n).length = n := by
  unfold progressBar
  dsimp only
  by_cases ht : (c.total == 0) = true
  · rw [if_pos ht, List.length_replicate]
  · rw [if_neg ht]
    refine foldl_barStep_length n c.total (Nat.pos_of_ne_zero fun e => ht (beq_iff_eq.mpr e)) _ (List.cons_ne_nil _ _)
      _ (Nat.zero_le _) ?_
    simp only [List.map_cons, List.map_nil, List.sum_cons, List.sum_nil, Counts.total]
    omega

/-- Non-vacuity: the F9 witness (a description of 2-byte characters cut in the middle of one)
    renders, within the width. -/
example : taskMessage [195,169,195,169,195,169,195,169,195,169,195,169] 0 10
    = .ok [195,169,195,169,195,169,46,46,46] := by decide

/-- The rows written for one running task — its message and, if it produced output, its last
    output line — are computed without panicking and each fits the terminal, for every message,
    every output line (any bytes), every age and every width ≥ 3.  The output-line row is two
    blanks followed by a prefix of the (decoded) line that ends on a character boundary. -/
theorem task_rows_fit (t : FrameTask) (cols : Nat) (hc : 3 ≤ cols) :
    ∃ rs, taskRows t cols = .ok rs ∧ (∀ r ∈ rs, r.length ≤ cols) ∧
      (∀ l, t.lastLine = some l → ∃ m p, rs = [m, [32, 32] ++ p] ∧ p <+: l ∧ isCharBoundary l p.length = true) := by
  obtain ⟨m, hm⟩ := taskMessage_no_panic t.message t.secs cols
  have hfit := taskMessage_fits t.message t.secs cols m hc hm
  unfold taskRows
  rw [hm]
  cases hl : t.lastLine with
  | none =>
    refine ⟨[m], rfl, fun r hr => ?_, fun l h => by cases h⟩
    rw [List.mem_singleton.mp hr]; exact hfit
  | some l =>
    have h2 : 2 ≤ cols := Nat.le_trans (by decide) hc
    obtain ⟨hpre, hlen, hbd⟩ := truncate_spec l (cols - 2)
    dsimp only
    rw [if_neg (Nat.not_lt.mpr h2)]
    refine ⟨_, rfl, fun r hr => ?_, fun l' h => ?_⟩
    · rcases List.mem_cons.mp hr with rfl | hr
      · exact hfit
      · rw [List.mem_singleton.mp hr, List.length_append, Nat.add_comm]
        exact Nat.add_le_of_le_sub h2 hlen
    · cases h
      exact ⟨m, truncate l (cols - 2), rfl, hpre, hbd⟩

theorem all_task_rows_fit (ts : List FrameTask) (cols : Nat) (hc : 3 ≤ cols) :
    ∃ rs, allTaskRows ts cols = .ok rs ∧ ∀ r ∈ rs, r.length ≤ cols := by
  induction ts with
  | nil => exact ⟨[], rfl, fun r hr => by cases hr⟩
  | cons t ts ih =>
    obtain ⟨r1, h1, f1, _⟩ := task_rows_fit t cols hc
    obtain ⟨r2, h2, f2⟩ := ih
    refine ⟨r1 ++ r2, by simp [allTaskRows, h1, h2], ?_⟩
    intro r hr
    rcases List.mem_append.mp hr with h | h
    · exact f1 r h
    · exact f2 r h

/-- **Rendering a frame never panics**, for every count vector, every set of running tasks
    (messages, ages, output lines of any bytes) and every width n2 accepts (≥ 10 columns, or no
    terminal size at all: 80 is assumed). -/
theorem frame_never_panics (c : Counts) (tasks : List FrameTask) (cols : Option Nat)
    (hc : ∀ k, cols = some k → 10 ≤ k) : ∃ out, frame c tasks cols = .ok out := by
  have h3 : 3 ≤ cols.getD 80 := by
    cases cols with
    | none => decide
    | some k => exact Nat.le_trans (by decide) (hc k rfl)
  obtain ⟨rs, hrs, _⟩ := all_task_rows_fit (tasks.take 8) (cols.getD 80) h3
  unfold frame
  simp only [hrs]
  exact ⟨_, rfl⟩

end N2V.C20
