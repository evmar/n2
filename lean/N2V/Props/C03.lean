/-
  C03 — Unchanged steps are not re-run; a repeated build does nothing.
-/
import N2V.Model.World
import N2V.Lemmas.Work
import N2V.Lemmas.WorldClean
import N2V.Lemmas.WorldSettled
import N2V.Lemmas.WorldReflect
import N2V.Lemmas.WorldSettledD
import N2V.Lemmas.WorkSkip
import N2V.Lemmas.SchedDone2
namespace N2V.C03
open N2V N2V.Work N2V.Load

/-- **Re-run only for a reason**: a non-phony step is judged dirty only if a file it names is
    missing, or it has no completion record, or the recorded manifest differs from the
    current one. -/
theorem rerun_only_if (e e' : Env) (b : Nat) (bm : BuildM) (hb : buildOf e.g b = some bm)
    (hcmd : bm.cmdline.isNone = false) (h : checkDirty e b = (some true, e')) :
    (filesMissing e bm b).2 = some true ∨
    ((filesMissing e bm b).2 = some false ∧
      (assocGet e'.hashes b = none ∨ ∃ prev, assocGet e'.hashes b = some prev ∧ prev ≠ manifestOf e' bm b)) := by
  have hs := checkDirty_env hb hcmd
  rw [h] at hs
  have := (checkDirty_dirty_iff hb hcmd).mp (by rw [h])
  rw [← hs] at this
  refine this.imp_right (fun ⟨hfm, hne⟩ => ⟨hfm, ?_⟩)
  cases hp : assocGet e'.hashes b with
  | none => exact Or.inl rfl
  | some prev => exact Or.inr ⟨prev, rfl, fun heq => hne (by rw [hp, heq])⟩

/-- Completeness of the rule: with every file present, a record on file and an equal manifest,
    the step is clean. -/
theorem clean_when_unchanged (e : Env) (b : Nat) (bm : BuildM) (prev : Manifest)
    (hb : buildOf e.g b = some bm) (hcmd : bm.cmdline.isNone = false)
    (hm : (filesMissing e bm b).2 = some false)
    (hp : assocGet (filesMissing e bm b).1.hashes b = some prev)
    (heq : prev = manifestOf (filesMissing e bm b).1 bm b) :
    (checkDirty e b).1 = some false :=
  (checkDirty_clean_iff hb hcmd).mpr ⟨hm, by rw [hp, heq]⟩

/-- Phony steps never run anything. -/
theorem phony_never_dirty (e : Env) (b : Nat) (bm : BuildM) (hb : buildOf e.g b = some bm)
    (hcmd : bm.cmdline = none) : (checkDirty e b).1 = some false := by
  rw [checkDirty_phony_eq hb (by rw [hcmd]; rfl)]

/-- **Order-only and validation inputs do not enter the manifest**: two statements that differ
    only in those sections (same dirtying inputs, outputs, command, rspfile) have equal
    manifests in every state, so editing or rebuilding such inputs never dirties the step. -/
theorem manifest_ignores_order_only (e : Env) (b : Nat) (bm bm' : BuildM)
    (h1 : bm.dirtying = bm'.dirtying) (h2 : bm.outs = bm'.outs) (h3 : bm.cmdline = bm'.cmdline)
    (h4 : bm.rspfile = bm'.rspfile) : manifestOf e bm b = manifestOf e bm' b := by
  unfold manifestOf; rw [h1, h2, h3, h4]

/-- An upstream re-run that leaves a file's timestamp unchanged leaves every manifest that
    mentions the file unchanged: the manifest depends on the stat cache only through the mtimes
    of the files it names. -/
theorem manifest_depends_on_mtimes_only (e e2 : Env) (b : Nat) (bm : BuildM)
    (hg : e2.g = e.g) (hd : e2.disc = e.disc)
    (hc : ∀ f, f ∈ bm.dirtying ++ discOf e b ++ bm.outs → assocGet e2.cache f = assocGet e.cache f) :
    manifestOf e2 bm b = manifestOf e bm b := by
  unfold manifestOf discOf
  rw [hg, hd]
  simp only [Manifest.mk.injEq, true_and]
  refine ⟨?_, ?_, ?_⟩
  · apply List.map_congr_left; intro f hf; rw [hc f (by simp [hf])]
  · apply List.map_congr_left; intro f hf; rw [hc f (by simp [discOf, hf])]
  · apply List.map_congr_left; intro f hf; rw [hc f (by simp [hf])]

/-- `-t restat`: a dirty step is recorded as it is, without running: `onAdopt` is exactly
    `record_finished` with no reported dependencies, and the tree is not touched. -/
theorem restat_touches_no_file (e : Env) (b : Nat) : (onAdopt e b).fs = e.fs :=
  (recordFinished_frame e b none).1

/-- **A repeated build does nothing.**  For every manifest, tree, log, argument vector
    (targets, `-j`, `-k`, `-t restat`) and every scheduling behaviour of the environment
    (completion order, hash-set iteration order): if the manifest loads and every non-phony step
    the invocation may consider — the closure of the manifest, the named targets / defaults / all
    files — is up to date (`Work.UpToDate`: every dirtying input, discovered dependency and output
    exists and the step's latest attributed record equals the manifest of the files as they are
    now) then the invocation leaves tree, clock and log exactly as they were, starts and finishes
    no command, does not reload, and a successful result reports 0 tasks (`n2: no work to do`).
    The state an invocation leaves after a success is checked to be of this kind by the monitor
    `settledAfterSuccess` on every implementation history (the same `UpToDate` definition,
    evaluated on the real tree and log). -/
theorem repeated_build_does_nothing (w : World) (a : InvArgs)
    (obs1 obs2 : List (List Nat) × List (Nat × Sched.Term)) (l : Loader) (e0 : Env)
    (hl : loadEnv w a.manifestName = .ok (l, e0))
    (hu : AllUpToDate e0 (Run.Wanted (schedGraph e0.g) (argsOf l a))) :
    (invoke w a obs1 obs2).1 = w ∧
    commandEvents (invoke w a obs1 obs2).2.2 = [] ∧
    (∀ n, (invoke w a obs1 obs2).2.1 = .done n → n = 0) :=
  invoke_upToDate w a obs1 obs2 l e0 hl hu

/-- The same at the level of `run::build`, for any environment whose stat cache is truthful. -/
theorem up_to_date_build_runs_nothing (e0 : Env) (a : Run.Args) (adopt : Bool) (perms : List (List Nat))
    (fin : List (Nat × Sched.Term))
    (gok : Sched.GraphOK (schedGraph e0.g)) (dok : Sched.DepsOK (schedGraph e0.g)) (hc : Coh e0)
    (hu : AllUpToDate e0 (Run.Wanted (schedGraph e0.g) a)) :
    let r := Run.build (schedGraph e0.g) a (choices adopt perms fin) e0
    Sched.sf r.1.trace = [Sched.Ev.load] ∧ r.1.tasksRun = 0 ∧ Grew e0 r.2.1 ∧
    (∀ n, r.2.2 = .done n → n = 0) ∧ (∀ n, r.2.2 ≠ .reload n) :=
  build_upToDate e0 a adopt perms fin gok dok hc hu

/-- **After a successful build, the same build again does nothing** — the round trip, proved for
    projects without discovered dependencies (no `depfile`/`deps`, no command that rewrites an
    input, no dependency lists in the log) (no hypothesis about cycles: a successful want phase
    excludes them, `C06.cycle_among_requested_steps_is_diagnosed`).  If an invocation succeeds
    (without reloading the manifest), the files the steps it wanted name exist afterwards, and the
    manifest still loads to the same graph, then the next invocation with the same arguments
    changes nothing, starts no command and reports 0 tasks — whatever the completion orders and
    hash-set iteration orders in either invocation.
    The case of `build_after_successful_build_does_nothing_with_depfiles` in which nothing is ever
    discovered (`Work.build_noDisc`): no step remembers a dependency at start-up or at the end, so
    the premise about source files holds trivially. -/
theorem build_after_successful_build_does_nothing (w : World) (a : InvArgs) (perms : List (List Nat))
    (fin : List (Nat × Sched.Term)) (l : Loader) (e0 : Env) (hl : loadEnv w a.manifestName = .ok (l, e0))
    (plain : Plain e0.g) (hlog : ∀ r ∈ w.log, r.deps = [])
    (hpar : 0 < a.par) (n : Nat)
    (hdone : (Run.build (schedGraph e0.g) (argsOf l a) (choices a.adopt perms fin) e0).2.2 = .done n)
    (hpresent : ∀ b bm, Run.Wanted (schedGraph e0.g) (argsOf l a) b → buildOf e0.g b = some bm → bm.cmdline.isNone = false →
      AllPresent (Run.build (schedGraph e0.g) (argsOf l a) (choices a.adopt perms fin) e0).2.1 bm)
    (w' : World)
    (hw' : w' = { fs := (Run.build (schedGraph e0.g) (argsOf l a) (choices a.adopt perms fin) e0).2.1.fs,
                  clock := (Run.build (schedGraph e0.g) (argsOf l a) (choices a.adopt perms fin) e0).2.1.clock,
                  log := (Run.build (schedGraph e0.g) (argsOf l a) (choices a.adopt perms fin) e0).2.1.log })
    (e0' : Env) (hl' : loadEnv w' a.manifestName = .ok (l, e0'))
    (o1 o2 : List (List Nat) × List (Nat × Sched.Term)) :
    (invoke w' a o1 o2).1 = w' ∧ commandEvents (invoke w' a o1 o2).2.2 = [] ∧
    (∀ k, (invoke w' a o1 o2).2.1 = .done k → k = 0) :=
  second_build_does_nothing w a perms fin l e0 hl plain hlog hpar n hdone hpresent w' hw' e0' hl' o1 o2

/-- Non-vacuity: a two-file project (`build out: cc in`) whose record matches the tree satisfies
    the hypothesis. -/
def exBuild : BuildM :=
  { loc := ⟨[], 1⟩, desc := none, cmdline := some [99, 99], depfile := none, showIncludes := false,
    rspfile := none, pool := none, ins := [1], explicit := 1, implicit := 0, orderOnly := 0, outs := [2],
    explicitOuts := 1, hideSuccess := false, hideProgress := false }

def exEnv : Env :=
  { g := { files := [⟨[109], none, []⟩, ⟨[105], none, [0]⟩, ⟨[111], some 0, []⟩], builds := [exBuild] },
    disc := [], hashes := [(0, { ins := [([105], 7)], disc := [], cmd := [99, 99], rsp := none, outs := [([111], 9)] })],
    cache := [], fs := [([105], ⟨7, []⟩), ([111], ⟨9, []⟩)], clock := 10, log := [] }

example : AllUpToDate exEnv (fun _ => True) := by
  refine ⟨?_, ?_⟩
  · intro b bm _ hb _
    obtain _ | n := b <;> cases hb
    refine ⟨?_, by decide⟩
    intro f hf
    have : f = 1 ∨ f = 2 := by simpa [BuildM.dirtying, discOf, assocGet, exEnv, exBuild] using hf
    rcases this with rfl | rfl <;> decide
  · intro b bm _ hb _ f hf
    cases hf

/-- ... and its graph is of the kind the round-trip theorem covers. -/
example : Plain exEnv.g := by
  refine ⟨?_, ?_, ?_⟩ <;> intro b bm hb <;> obtain _ | n := b <;> cases hb <;> decide

/-- **The round trip with discovered dependencies** (depfile / `deps = msvc` steps included).  For a
    loaded project in which no command rewrites an input and every step has an output, WHATEVER
    the log held before (records with dependency lists, records of other manifests): if an
    invocation succeeds without reloading the manifest, the
    dependencies its finished steps remember at the end are source files (`GoodD`: none is produced
    by a step - n2 itself refuses generated ones that lack a dependency path), the files the wanted
    steps name (remembered dependencies included) exist afterwards and the manifest still loads to
    the same graph, then the next invocation with the same arguments changes nothing, starts no
    command and reports 0 tasks - whatever the completion orders and hash-set iteration orders in
    either invocation.  Invariant `Work.JD` (Lemmas/WorkSettledD): the graph only gains uniquely
    named source files; every Done step whose files exist has, as the latest record the log
    attributes to it, one whose signature is the manifest of the tree as it is and whose dependency
    list names the step's current discovered dependencies - carried through `Work::run` by
    `Sched.runLoop_done`; the next start-up re-attaches exactly that (`applyLog_spec`). -/
theorem build_after_successful_build_does_nothing_with_depfiles (w : World) (a : InvArgs) (perms : List (List Nat))
    (fin : List (Nat × Sched.Term)) (l : Loader) (e0 : Env) (hl : loadEnv w a.manifestName = .ok (l, e0))
    (plain : PlainD e0.g) (hpar : 0 < a.par) (n : Nat)
    (hdone : (Run.build (schedGraph e0.g) (argsOf l a) (choices a.adopt perms fin) e0).2.2 = .done n)
    (hsrc : GoodD (Run.build (schedGraph e0.g) (argsOf l a) (choices a.adopt perms fin) e0).1
              (Run.build (schedGraph e0.g) (argsOf l a) (choices a.adopt perms fin) e0).2.1)
    (hpresent : ∀ b bm, Run.Wanted (schedGraph e0.g) (argsOf l a) b → buildOf e0.g b = some bm → bm.cmdline.isNone = false →
      AllPresentD (Run.build (schedGraph e0.g) (argsOf l a) (choices a.adopt perms fin) e0).2.1 bm b)
    (w' : World)
    (hw' : w' = { fs := (Run.build (schedGraph e0.g) (argsOf l a) (choices a.adopt perms fin) e0).2.1.fs,
                  clock := (Run.build (schedGraph e0.g) (argsOf l a) (choices a.adopt perms fin) e0).2.1.clock,
                  log := (Run.build (schedGraph e0.g) (argsOf l a) (choices a.adopt perms fin) e0).2.1.log })
    (e0' : Env) (hl' : loadEnv w' a.manifestName = .ok (l, e0'))
    (o1 o2 : List (List Nat) × List (Nat × Sched.Term)) :
    (invoke w' a o1 o2).1 = w' ∧ commandEvents (invoke w' a o1 o2).2.2 = [] ∧
    (∀ k, (invoke w' a o1 o2).2.1 = .done k → k = 0) :=
  second_build_does_nothing_deps w a perms fin l e0 hl plain hpar n hdone hsrc hpresent w' hw' e0' hl' o1 o2

/-- The example project is of the kind this covers too. -/
example : PlainD exEnv.g := by
  refine ⟨?_, ?_⟩ <;> intro b bm hb <;> obtain _ | n := b <;> cases hb <;> decide

/-- **What a failed build completed is not redone.**  Let an invocation end in success OR in an
    ordinary failure (a command failed, the `-k` budget ran out, an interruption; no reload; no
    input-rewriting commands; remembered dependencies of finished steps are source files), and let
    the manifest load to the same graph from the world it left.  Then every non-phony step that was
    `Done` when it stopped and whose named files exist is `UpToDate` in the freshly loaded
    environment of the next invocation (all its files exist, and the signature attached from the
    log is the manifest of the tree as it is), with only source files among its remembered
    dependencies - so `check_build_dirty` finds it clean (`checkDirty_upToDate`) and it is skipped,
    unless something it names is changed before its turn. -/
theorem completed_steps_are_up_to_date_next_time (w : World) (m : Bytes) (l : Loader) (e0 : Env)
    (hl : loadEnv w m = .ok (l, e0)) (plain : PlainD e0.g)
    (a : Run.Args) (adopt : Bool) (perms : List (List Nat)) (fin : List (Nat × Sched.Term))
    (h : (∃ n, (Run.build (schedGraph e0.g) a (choices adopt perms fin) e0).2.2 = .done n) ∨
         (Run.build (schedGraph e0.g) a (choices adopt perms fin) e0).2.2 = .failed)
    (hsrc : GoodD (Run.build (schedGraph e0.g) a (choices adopt perms fin) e0).1
              (Run.build (schedGraph e0.g) a (choices adopt perms fin) e0).2.1)
    (w' : World)
    (hw' : w' = { fs := (Run.build (schedGraph e0.g) a (choices adopt perms fin) e0).2.1.fs,
                  clock := (Run.build (schedGraph e0.g) a (choices adopt perms fin) e0).2.1.clock,
                  log := (Run.build (schedGraph e0.g) a (choices adopt perms fin) e0).2.1.log })
    (e0' : Env) (hl' : loadEnv w' m = .ok (l, e0'))
    (b : Nat) (bm : BuildM) (hb : buildOf e0.g b = some bm)
    (hdoneb : (Run.build (schedGraph e0.g) a (choices adopt perms fin) e0).1.st b = .done)
    (hnp : bm.cmdline.isNone = false)
    (hall : AllPresentD (Run.build (schedGraph e0.g) a (choices adopt perms fin) e0).2.1 bm b) :
    buildOf e0'.g b = some bm ∧ UpToDate e0' b bm ∧ ∀ f ∈ discOf e0' b, fileInput e0'.g f = none :=
  next_startup_upToDate w m l e0 hl _ _ (build_jd w m l e0 hl plain a adopt perms fin h hsrc) hsrc w' hw' e0' hl'
    b bm hb hdoneb hnp hall

/-- The same for an invocation that regenerated and reloaded its manifest, for the steps of the
    part after the reload (the fresh `Work` on the reloaded graph, `Run.buildReloaded`): `e2` is the
    environment `load::read` returned for the world the manifest phase left. -/
theorem completed_steps_are_up_to_date_next_time_reloaded (w1 : World) (m : Bytes) (l2 : Loader) (e2 : Env)
    (hl : loadEnv w1 m = .ok (l2, e2)) (plain : PlainD e2.g)
    (a : Run.Args) (adopt : Bool) (perms : List (List Nat)) (fin : List (Nat × Sched.Term)) (n0 : Nat)
    (h : (∃ n, (Run.buildReloaded (schedGraph e2.g) a (choices adopt perms fin) e2 n0).2.2 = .done n) ∨
         (Run.buildReloaded (schedGraph e2.g) a (choices adopt perms fin) e2 n0).2.2 = .failed)
    (hsrc : GoodD (Run.buildReloaded (schedGraph e2.g) a (choices adopt perms fin) e2 n0).1
              (Run.buildReloaded (schedGraph e2.g) a (choices adopt perms fin) e2 n0).2.1)
    (w' : World)
    (hw' : w' = { fs := (Run.buildReloaded (schedGraph e2.g) a (choices adopt perms fin) e2 n0).2.1.fs,
                  clock := (Run.buildReloaded (schedGraph e2.g) a (choices adopt perms fin) e2 n0).2.1.clock,
                  log := (Run.buildReloaded (schedGraph e2.g) a (choices adopt perms fin) e2 n0).2.1.log })
    (e0' : Env) (hl' : loadEnv w' m = .ok (l2, e0'))
    (b : Nat) (bm : BuildM) (hb : buildOf e2.g b = some bm)
    (hdoneb : (Run.buildReloaded (schedGraph e2.g) a (choices adopt perms fin) e2 n0).1.st b = .done)
    (hnp : bm.cmdline.isNone = false)
    (hall : AllPresentD (Run.buildReloaded (schedGraph e2.g) a (choices adopt perms fin) e2 n0).2.1 bm b) :
    buildOf e0'.g b = some bm ∧ UpToDate e0' b bm ∧ ∀ f ∈ discOf e0' b, fileInput e0'.g f = none :=
  next_startup_upToDate w1 m l2 e2 hl _ _ (buildReloaded_jd w1 m l2 e2 hl plain a adopt perms fin n0 h hsrc) hsrc
    w' hw' e0' hl' b bm hb hdoneb hnp hall

/-- **A step whose own files were left alone is not re-run** (restat behaviour).  If a step is up
    to date and then other commands run - rewriting THEIR outputs, or leaving an output untouched
    because its content would not change (`cp -p`, `copy_if_different`; the `split` commands of the
    model) - then, as long as the modification times of the files this step names are what they
    were, it is still up to date, and `check_build_dirty` finds it clean (truthful cache, generated
    inputs stat()ed): being downstream of a step that RAN is not a reason to run. -/
theorem untouched_step_is_not_rerun (e e' : Env) (b : Nat) (bm : BuildM) (hb : buildOf e'.g b = some bm)
    (hg : e'.g = e.g) (hd : discOf e' b = discOf e b) (hh : assocGet e'.hashes b = assocGet e.hashes b)
    (hm : ∀ f ∈ bm.dirtying ++ discOf e b ++ bm.outs, mtimeOf e' f = mtimeOf e f) (u : UpToDate e b bm)
    (hc : Coh e') (hgen : ∀ f ∈ bm.dirtying ++ discOf e' b, (fileInput e'.g f).isSome = true → Cached e' f) :
    (checkDirty e' b).1 = some false :=
  (checkDirty_upToDate e' b bm hb hc (upToDate_frame e e' b bm hg hd hh hm u) hgen).1

/-- **The monitor's verdict is the theorem's hypothesis.**  `World.settledC` is the decidable
    predicate the driver evaluates on the world the real n2 left behind (monitor
    settledAfterSuccess): every non-phony step in the requested closure has its files, its latest
    record is the manifest of the tree as it is, its generated discovered dependencies come from
    ordering ancestors - plus a check that the computed closure is closed.  When it says `true`,
    the hypothesis of `repeated_build_does_nothing` holds (reflection, `settledC_sound`), hence
    every further invocation with these arguments changes nothing and runs nothing. -/
theorem settled_world_is_left_alone (w : Work.World) (a : Work.InvArgs) (h : World.settledC w a = true)
    (obs1 obs2 : List (List Nat) × List (Nat × Sched.Term)) :
    (Work.invoke w a obs1 obs2).1 = w ∧ Work.commandEvents (Work.invoke w a obs1 obs2).2.2 = [] :=
  World.settled_world_is_left_alone w a h obs1 obs2

end N2V.C03
