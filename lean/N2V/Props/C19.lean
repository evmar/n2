/-
  C19 — Progress counts match reality.
  `Inv` (Lemmas/SchedInv) states, among others: for every state x, `counts x` = number of
  non-phony builds in state x; `pending` = number of builds in Want/Ready/Queued/Running.
-/
import N2V.Lemmas.SchedExamples
namespace N2V.C19
open N2V N2V.Sched

/-- Initially all counts are exact (everything Unknown, all counters zero). -/
theorem counts_init (g : Graph) (par : Nat) (declared : List (Bytes × Nat)) (k : Option Nat) (x : St)
    (hx : x ≠ .unknown) :
    (init declared k).counts.get x
      = cnt g.nBuilds (fun b => (init declared k).st b == x && !(g.build b).phony) :=
  (init_inv g par declared k).counts x hx

/-- Every state transition (`BuildStates::set` is the only place a build changes state) keeps
    every UI count and the pending total exact: each non-phony build is counted in exactly the
    state it is in, phony builds in none.  (No transition leaves Done/Failed or returns to
    Unknown: those are the side conditions, established by C01/C05's stability theorems.) -/
theorem counts_step {g : Graph} {par : Nat} {s s' : S} {bid : Nat} {new : St}
    (inv : Inv g par s) (h : set g s bid new = .ok s') (hid : bid < g.nBuilds)
    (hnew : new ≠ .unknown) (hprev : s.st bid ≠ .done ∧ s.st bid ≠ .failed) :
    (∀ x, x ≠ .unknown → s'.counts.get x = cnt g.nBuilds (fun b => s'.st b == x && !(g.build b).phony)) ∧
    s'.pending = cnt g.nBuilds (fun b => active (s'.st b)) :=
  ⟨set_counts_exact inv.toInvCore h hid, set_pending_exact inv.toInvCore h hid hnew hprev⟩

/-- Hence the `isize`/`usize` casts of `StateCounts::add` never wrap: every count lies in
    `[0, #builds]`. -/
theorem counts_bounded {g : Graph} {par : Nat} {s : S} (inv : Inv g par s) (x : St) (hx : x ≠ .unknown) :
    0 ≤ s.counts.get x ∧ s.counts.get x ≤ g.nBuilds := by
  rw [inv.counts x hx]
  have := cnt_le g.nBuilds (fun b => s.st b == x && !(g.build b).phony)
  omega

theorem pending_bounded {g : Graph} {par : Nat} {s : S} (inv : Inv g par s) :
    0 ≤ s.pending ∧ s.pending ≤ g.nBuilds := by
  rw [inv.pending]
  have := cnt_le g.nBuilds (fun b => active (s.st b))
  omega

/-- The want phase changes no running/finished count (it only assigns Want/Ready) and does not
    touch `tasks_run`, the number the final `ran N tasks` line reports. -/
theorem want_keeps_finished (g : Graph) (s s' : S) (f : Nat) (h : want g s f = .ok () s') :
    s'.tasksRun = s.tasksRun ∧ ∀ b, (s'.st b = .done ↔ s.st b = .done) :=
  let e := want_lateEq h
  ⟨e.2.2.2, fun b => e.1 b .done (Or.inr (Or.inr (Or.inl rfl)))⟩

/-- **Whole invocation.**  For every graph (producers being builds of the graph), every
    argument vector and every behaviour of the environment (dirty answers, promotion orders,
    finish order and outcomes), whenever `run::build` reports success or stops to re-read a
    regenerated manifest, every UI count is exact and in `[0, #builds]`, `pending` is exact, and
    the runner's count equals the number of Running builds.  (The want phase with its re-entrant
    second visits, and every iteration of `Work::run`, preserve the whole invariant:
    `want_inv_all`, `runLoop_inv`.) -/
theorem counts_whole_build {E : Type} {g : Graph} (gok : GraphOK g) (a : Run.Args) (c : Choices E) (e : E)
    (n : Nat) (h : (Run.build g a c e).2.2 = .done n ∨ (Run.build g a c e).2.2 = .reload n) :
    let s := (Run.build g a c e).1
    (∀ x, x ≠ .unknown → s.counts.get x = cnt g.nBuilds (fun b => s.st b == x && !(g.build b).phony)) ∧
    s.pending = cnt g.nBuilds (fun b => active (s.st b)) ∧
    s.running = cnt g.nBuilds (fun b => s.st b == .running) :=
  let inv := Run.build_inv gok a c e n h
  ⟨inv.counts, inv.pending, inv.running⟩

/-- The same after a reload (fresh `Work` on the new graph). -/
theorem counts_whole_build_reloaded {E : Type} {g : Graph} (gok : GraphOK g) (a : Run.Args) (c : Choices E)
    (e : E) (n0 n : Nat) (h : (Run.buildReloaded g a c e n0).2.2 = .done n) :
    let s := (Run.buildReloaded g a c e n0).1
    (∀ x, x ≠ .unknown → s.counts.get x = cnt g.nBuilds (fun b => s.st b == x && !(g.build b).phony)) ∧
    s.pending = cnt g.nBuilds (fun b => active (s.st b)) :=
  let inv := Run.buildReloaded_inv gok a c e n0 n h
  ⟨inv.counts, inv.pending⟩

/-- Every iteration of `Work::run` starts in a state satisfying the invariant and, when the loop
    reports success, ends in one. -/
theorem counts_every_iteration {E : Type} {g : Graph} {par : Nat} (c : Choices E) (fuel : Nat) (s : S) (e : E)
    (perms : List (List Nat)) (fin : List (Nat × Term)) (inv : Inv g par s)
    (h : (runLoop g par c fuel s e perms fin).result = .ok true) :
    Inv g par (runLoop g par c fuel s e perms fin).s := runLoop_inv c fuel s e perms fin inv h

/-- **C19 at every update of every invocation**: every progress update any `run::build` emits —
    whatever the outcome — shows, for each state, exactly the number of non-phony builds in that
    state at that moment; and so does every single transition, together with the pending total. -/
theorem counts_exact_at_every_update {E : Type} {g : Graph} (gok : GraphOK g) (a : Run.Args) (c : Choices E)
    (e : E) (cs : List Int) (tr' : List Ev) (hs : (.update cs :: tr') <:+ (Run.build g a c e).1.trace) :
    cs = exactCounts g (stOf tr') :=
  counts_at_every_update (Run.build_tinv gok a c e).ok hs

theorem counts_exact_at_every_transition {E : Type} {g : Graph} (gok : GraphOK g) (a : Run.Args)
    (c : Choices E) (e : E) (id : Nat) (prev new : St) (cs : List Int) (pend : Int) (tr' : List Ev)
    (hs : (.set id prev new cs pend :: tr') <:+ (Run.build g a c e).1.trace) :
    cs = exactCounts g (stOf (.set id prev new cs pend :: tr')) ∧
    pend = (cnt g.nBuilds (fun b => active (stOf (.set id prev new cs pend :: tr') b)) : Int) :=
  counts_at_every_set (Run.build_tinv gok a c e).ok hs

theorem counts_exact_at_every_update_reloaded {E : Type} {g : Graph} (gok : GraphOK g) (a : Run.Args)
    (c : Choices E) (e : E) (n0 : Nat) (cs : List Int) (tr' : List Ev)
    (hs : (.update cs :: tr') <:+ (Run.buildReloaded g a c e n0).1.trace) :
    cs = exactCounts g (stOf tr') :=
  counts_at_every_update (Run.buildReloaded_tinv gok a c e n0).ok hs

/-- **Finished counts never decrease**: a build that is `Done` (`Failed`) at some point of an
    invocation still is at every later point of the same `Work`. -/
theorem finished_never_decrease {E : Type} {g : Graph} (gok : GraphOK g) (a : Run.Args) (c : Choices E)
    (e : E) (tr1 tr2 : List Ev) (hs : (tr2 ++ tr1) <:+ (Run.build g a c e).1.trace) (hl : Ev.load ∉ tr2)
    (b : Nat) (x : St) (hx : x = .done ∨ x = .failed) (hb : stOf tr1 b = x) : stOf (tr2 ++ tr1) b = x :=
  finished_monotone (okTrace_suffix (Run.build_tinv gok a c e).ok hs) hl b x hx hb

/-- Non-vacuity: the example run emits updates, the last one showing two finished builds. -/
example : (Run.build Ex.g0 Ex.a0 Ex.c0 ()).1.trace.any (fun ev => ev == .update [0, 0, 0, 0, 2, 0]) = false ∧
    (Run.build Ex.g0 Ex.a0 Ex.c0 ()).1.trace.any (fun ev => ev == .update [0, 0, 0, 1, 1, 0]) = true := by decide

/-- **`ran N tasks`**: when `run::build` reports success with `N` tasks, `N` is exactly the number
    of commands that finished successfully in this `Work`, no command failed and none was
    interrupted; `no work to do` (N = 0) is printed exactly when no command succeeded. -/
theorem ran_n_tasks {E : Type} {g : Graph} (gok : GraphOK g) (a : Run.Args) (hk : a.failuresLeft ≠ some 0)
    (c : Choices E) (e : E) (n : Nat) (h : (Run.build g a c e).2.2 = .done n) :
    n = succs (sf (Run.build g a c e).1.trace) ∧ fails (sf (Run.build g a c e).1.trace) = 0 ∧
    intr (sf (Run.build g a c e).1.trace) = false :=
  (Run.build_acct gok a hk c e).2.1 n h

theorem ran_n_tasks_reloaded {E : Type} {g : Graph} (gok : GraphOK g) (a : Run.Args)
    (hk : a.failuresLeft ≠ some 0) (c : Choices E) (e : E) (n0 n : Nat)
    (h : (Run.buildReloaded g a c e n0).2.2 = .done n) :
    n = n0 + succs (sf (Run.buildReloaded g a c e n0).1.trace) :=
  ((Run.buildReloaded_acct gok a hk c e n0).2 n h).1

/-- A reload happens exactly after a manifest phase in which `n > 0` commands succeeded. -/
theorem reload_after_commands {E : Type} {g : Graph} (gok : GraphOK g) (a : Run.Args)
    (hk : a.failuresLeft ≠ some 0) (c : Choices E) (e : E) (n : Nat)
    (h : (Run.build g a c e).2.2 = .reload n) :
    n = succs (sf (Run.build g a c e).1.trace) ∧ n ≠ 0 :=
  (Run.build_acct gok a hk c e).2.2 n h

example : succs (sf (Run.build Ex.g0 Ex.a0 Ex.c0 ()).1.trace) = 2 := by decide
example : budgetTrace Ex.a0.failuresLeft (Run.build Ex.g0 Ex.a0 Ex.c1 ()).1.trace = true := by decide

end N2V.C19
