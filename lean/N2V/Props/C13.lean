/-
  C13 — Different spellings of one path are one graph node.
  Property theorems about `N2V.Canon` (model of canon.rs::canonicalize_path).
-/
import N2V.Lemmas.CanonBase
import N2V.Lemmas.Canon
namespace N2V.C13
open N2V N2V.Canon

theorem dotdot_len (out : Bytes) (st : List Nat) (sep : Option UInt8) :
    (dotdot out st sep).1.length ≤ out.length + 2 + sep.toList.length := by
  cases st with
  | nil =>
    rw [show (dotdot out [] sep).1 = out ++ [dot, dot] ++ sep.toList from rfl, List.length_append,
      List.length_append]
    exact Nat.le_refl _
  | cons ofs st =>
    exact Nat.le_trans (List.length_take_le' ..) (Nat.le_trans (Nat.le_add_right _ 2) (Nat.le_add_right ..))

theorem finish_len (out : Bytes) : (finish out).length ≤ max 1 out.length := by
  cases out with
  | nil => exact Nat.le_refl 1
  | cons _ _ => exact Nat.le_max_right ..

/-- What `classify` consumes pays for what `dotdot` may emit. -/
theorem classify_up_budget {c r sep r'} (h : classify c r = .up sep r') :
    r'.length + 2 + sep.toList.length ≤ r.length + 1 := by
  obtain ⟨-, ⟨rfl, rfl, rfl⟩ | ⟨m, -, rfl, rfl⟩⟩ := classify_spec c r h
  · exact Nat.le_refl 2
  · exact Nat.le_refl _

theorem go_len (rest : Bytes) (b : Bool) (out : Bytes) (st : List Nat) (t : Bytes)
    (h : go rest b out st = .ok t) : t.length ≤ max 1 (out.length + rest.length) := by
  have mono : ∀ {a b : Nat}, a ≤ b → t.length ≤ max 1 a → t.length ≤ max 1 b := fun hab ha =>
    Nat.le_trans ha (Nat.max_le.mpr ⟨Nat.le_max_left .., Nat.le_trans hab (Nat.le_max_right ..)⟩)
  fun_induction go rest b out st
  case case1 ic out st => cases h; exact finish_len out
  case case2 out st c r ih =>
    refine mono ?_ (ih h)
    rw [List.length_append, List.length_singleton, List.length_cons]; omega
  case case3 ic out st c r hn r' hc ih =>
    refine mono ?_ (ih h)
    have := classify_skip_len hc
    rw [List.length_cons]; omega
  case case4 ic out st c r hn hc => cases h; exact mono (Nat.le_add_right ..) (finish_len out)
  case case5 ic out st c r hn sep r' hc p ih =>
    refine mono ?_ (ih h)
    have := classify_up_budget hc
    have : p.1.length ≤ _ := dotdot_len out st sep
    rw [List.length_cons]; omega
  case case6 ic out st c r hn hc ih =>
    refine mono ?_ (ih h)
    rw [List.length_append, List.length_singleton, List.length_cons]; omega

/-- Never lengthens: `|canon s| ≤ |s|` for every input. -/
theorem len (s t : Bytes) (h : canon s = .ok t) : t.length ≤ s.length := by
  cases s with
  | nil => cases h
  | cons c r =>
    unfold canon at h
    dsimp only at h
    have hpos : max 1 (r.length + 1) = r.length + 1 := Nat.max_eq_right (Nat.le_add_left ..)
    by_cases hs : isSep c = true
    · rw [if_pos hs] at h
      have := go_len _ _ _ _ _ h
      rwa [List.length_singleton, Nat.add_comm, hpos] at this
    · rw [if_neg hs] at h
      have := go_len _ _ _ _ _ h
      rwa [List.length_nil, Nat.zero_add, List.length_cons, hpos] at this

/-- Every non-empty path is canonicalised — any number of components (after the repair of
    finding F4 the component stack spills to the heap instead of panicking past 60). -/
theorem ok (s : Bytes) (hne : s ≠ []) : ∃ t, canon s = .ok t := canon_ok hne

/-- The empty path is the one input `canonicalize_path` refuses (its callers never pass it:
    repair of finding F3). -/
theorem empty_refused : canon [] = .panic "assertion failed: !path.is_empty()" := rfl

/-- Non-vacuity: a concrete spelling (`a/./b//../c\\..`) with every special case in it. -/
example : canon [97,47,46,47,98,47,47,46,46,47,99,92,92,46,46] = .ok [97,47] := by
  rw [canon_spec _ (by decide)]; decide

/-- **`canonicalize_path` computes the specification**: for every non-empty path — any length,
    any number of components, any mixture of `/` and `\` — the result is the rendering of what
    the path denotes: its root separator if any, the leading `..` that cannot be resolved, and
    the remaining names each with the separator byte that followed it (`.`, empty components
    and `name/..` pairs are gone; a trailing separator is kept: it is significant). -/
theorem spec (s : Bytes) (hne : s ≠ []) : canon s = .ok (render (denote s)) := canon_spec s hne

/-- **Same location**: the canonical form denotes what the original spelling denotes. -/
theorem same_location (s t : Bytes) (h : canon s = .ok t) : denote t = denote s := denote_canon s t h

/-- **Idempotent**: canonicalising a canonical form changes nothing. -/
theorem idempotent (s t : Bytes) (h : canon s = .ok t) : canon t = .ok t := canon_idem s t h

/-- **Normal form**: a canonical form is its own rendering, and none of its names is empty, `.`
    or `..` or contains a separator (every `..` left is a leading one, recorded in `ups`). -/
theorem normal_form (s t : Bytes) (h : canon s = .ok t) :
    render (denote t) = t ∧
    ∀ n ∈ (denote t).names, n.1 ≠ [] ∧ n.1 ≠ [dot] ∧ n.1 ≠ [dot, dot] ∧ ∀ b ∈ n.1, isSep b = false :=
  canon_normal s t h

/-- **One node per location**: two spellings get the same canonical bytes — hence the same graph
    node, since nodes are looked up by canonical name — exactly when they denote the same
    location. -/
theorem one_node_per_location (s s' t t' : Bytes) (h : canon s = .ok t) (h' : canon s' = .ok t') :
    t = t' ↔ denote s = denote s' := canon_eq_iff s s' t t' h h'

/-- Non-vacuity: `a/./b/../c//d/` and `a\c/d/`... denote the same location as `a/c/d/` up to the
    separator bytes that are kept; `foo/../..` keeps one leading `..`. -/
example : canon [97, 47, 46, 47, 98, 47, 46, 46, 47, 99, 47, 47, 100, 47] = .ok [97, 47, 99, 47, 100, 47] := by
  rw [spec _ (by decide)]; decide
example : canon [102, 47, 46, 46, 47, 46, 46] = .ok [46, 46] := by
  rw [spec _ (by decide)]; decide
example : denote [97, 47, 98] ≠ denote [97, 47, 98, 47] := by decide

end N2V.C13
