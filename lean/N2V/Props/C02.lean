/-
  C02 — A successful incremental build leaves what a clean build would produce.
  Decision-level theorems about `Work.checkDirty` / `Work.recordFinished` (the manifest rule);
  the whole-history statement is checked by the monitor `cleanEq` (World.cleanOutputs) on every
  implementation history and by exact agreement of the model with the implementation
  (traces, results, the whole tree) on those histories.
-/
import N2V.Model.World
import N2V.Lemmas.Work
import N2V.Lemmas.LoadSched
import N2V.Lemmas.WorldSettled
import N2V.Lemmas.WorkSkip
import N2V.Lemmas.WorldSettledD
import N2V.Lemmas.SchedDone2
namespace N2V.C02
open N2V N2V.Work N2V.Load

/-- **A step is skipped only for a reason.**  If `check_build_dirty` answers "clean" for a
    non-phony step, then a completion record exists for it and the recorded manifest equals the
    manifest of the files as they are NOW (names and mtimes of dirtying inputs, discovered
    dependencies and outputs, command line, response file). -/
theorem skip_sound (e e' : Env) (b : Nat) (bm : BuildM) (hb : buildOf e.g b = some bm)
    (hcmd : bm.cmdline.isNone = false) (h : checkDirty e b = (some false, e')) :
    (filesMissing e bm b).2 = some false ∧
    ∃ prev, assocGet e'.hashes b = some prev ∧ prev = manifestOf e' bm b := by
  obtain ⟨hfm, hh⟩ := (checkDirty_clean_iff hb hcmd).mp (by rw [h])
  rw [← checkDirty_env hb hcmd, h] at hh
  exact ⟨hfm, _, hh, rfl⟩

/-- The dirtiness check only looks: it never changes the tree, the log, the recorded hashes or
    the discovered-dependency lists (only the stat cache). -/
theorem check_is_readonly (e : Env) (b : Nat) :
    (checkDirty e b).2.fs = e.fs ∧ (checkDirty e b).2.log = e.log ∧ (checkDirty e b).2.hashes = e.hashes ∧
    (checkDirty e b).2.disc = e.disc := by
  have st := checkDirty_same e b
  exact ⟨st.fs, st.log, st.hashes, st.disc⟩

/-- **No record when a file is missing**: then the log is left as it was (so the step is
    dirty next time for lack of a matching record). -/
theorem no_record_when_missing (e : Env) (b : Nat) (bm : BuildM) (deps : Option (List Bytes))
    (hb : buildOf e.g b = some bm)
    (hm : (restat e bm b deps).1 = true ∨ (restat e bm b deps).2.1.isSome = true) :
    (recordFinished e b deps).log = e.log := by
  unfold recordFinished
  rw [hb]
  simp only
  rw [if_pos (by rcases hm with h | h <;> simp [h])]
  -- re-stat()ing and interning do not touch the log
  rw [restat_eq]
  exact (statMany_same _ _).log.trans (keepDeps_frame bm.dirtying (deps.getD []) e []).1

/-- **What is recorded is the state after the command**: when every file is present,
    exactly one record is appended; it names the step's outputs and its NEW discovered
    dependencies, and carries the manifest of the re-stat()ed files. -/
theorem record_is_poststate (e : Env) (b : Nat) (bm : BuildM) (deps : Option (List Bytes))
    (hb : buildOf e.g b = some bm)
    (hp : (restat e bm b deps).1 = false ∧ (restat e bm b deps).2.1 = none) :
    let r := (restat e bm b deps).2.2
    (recordFinished e b deps).log = r.log ++
      [⟨bm.outs.map (fileName r.g), (discOf r b).map (fileName r.g), manifestOf r bm b⟩] := by
  unfold recordFinished
  rw [hb]
  simp only
  have hc : ¬ ((restat e bm b deps).1 || (restat e bm b deps).2.1.isSome) = true := by
    simp [hp.1, hp.2]
  rw [if_neg hc]

/-- The manifest that is compared/recorded names every dirtying input, every discovered
    dependency and every output with its mtime, the command line and the response file — and
    nothing else (in particular no order-only or validation input). -/
theorem manifest_contents (e : Env) (bm : BuildM) (b : Nat) :
    (manifestOf e bm b).ins.map (·.1) = bm.dirtying.map (fileName e.g) ∧
    (manifestOf e bm b).disc.map (·.1) = (discOf e b).map (fileName e.g) ∧
    (manifestOf e bm b).outs.map (·.1) = bm.outs.map (fileName e.g) ∧
    (manifestOf e bm b).cmd = bm.cmdline.getD [] ∧ (manifestOf e bm b).rsp = bm.rspfile := by
  unfold manifestOf
  simp [List.map_map, Function.comp]

/-- **n2 itself writes nothing but the log; only commands write, and only their outputs.**  For
    every world and loadable manifest, every argument vector and every scheduling behaviour, at
    the end of `run::build` (both phases, success or not): every file that is not an output of a
    build statement (nor the private input an `rw` command of the abstract semantics rewrites) has
    exactly the state it had (existence, mtime, content); the log is the old log plus appended
    records; the signatures loaded at start-up, the build statements and the ids and names of the
    known files are unchanged; the clock did not go back. -/
theorem invocation_changes_only_outputs (w : World) (m : Bytes) (l : Loader) (e0 : Env)
    (h : loadEnv w m = .ok (l, e0)) (a : Run.Args) (adopt : Bool) (perms : List (List Nat))
    (fin : List (Nat × Sched.Term)) :
    Within e0 (Run.build (schedGraph e0.g) a (choices adopt perms fin) e0).2.1 :=
  build_within e0 (ginv_idsOK e0.g (loadEnv_graph_ok w m l e0 h).1) _ a adopt perms fin

/-- The same for the part of an invocation that follows a manifest reload. -/
theorem reloaded_part_changes_only_outputs (w : World) (m : Bytes) (l : Loader) (e0 : Env)
    (h : loadEnv w m = .ok (l, e0)) (a : Run.Args) (adopt : Bool) (perms : List (List Nat))
    (fin : List (Nat × Sched.Term)) (n : Nat) :
    Within e0 (Run.buildReloaded (schedGraph e0.g) a (choices adopt perms fin) e0 n).2.1 :=
  buildReloaded_within e0 (ginv_idsOK e0.g (loadEnv_graph_ok w m l e0 h).1) _ a adopt perms fin n

/-- **What is Done is settled** (the recorded state is the post-state, for whole invocations with
    other commands running in between; projects without discovered dependencies): at the end of
    a `run::build` that reports success without reloading, invariant `Work.JS` holds — the graph,
    the loaded signatures and the (empty) discovered lists are as loaded; the log is the old log
    plus one record per step that ran, each for a Done step; the stat cache tells the truth except
    about outputs of steps not Done; the dirtying inputs of a Done step are produced by Done steps;
    and for every Done non-phony step whose named files exist, the signature the NEXT start-up
    will attach to it equals the manifest of the files as they are now. -/
theorem done_steps_are_settled (e0 : Env) (inv0 : GInv e0.g) (plain : Plain e0.g) (hnd0 : ∀ b, discOf e0 b = [])
    (hc0 : e0.cache = []) (a : Run.Args) (adopt : Bool) (perms : List (List Nat)) (fin : List (Nat × Sched.Term)) (n : Nat)
    (h : (Run.build (schedGraph e0.g) a (choices adopt perms fin) e0).2.2 = .done n) :
    JS e0 (Run.build (schedGraph e0.g) a (choices adopt perms fin) e0).1
      (Run.build (schedGraph e0.g) a (choices adopt perms fin) e0).2.1 :=
  build_done_js e0 inv0 plain hnd0 hc0 a adopt perms fin n h

/-- **What is Done is settled, with discovered dependencies**: for every environment `load::read`
    returns (any log) and every project without input-rewriting commands, at the end of a
    `run::build` that reports success without reloading - provided the dependencies the finished
    steps remember are source files - invariant `Work.JD` holds: the graph only gained uniquely
    named source files; the log is the old log plus one record per step that ran; the stat cache
    tells the truth except about outputs of steps not Done; and for every Done non-phony step whose
    named files (remembered dependencies included) exist, the LATEST record the log attributes to
    it carries the manifest of the tree as it is now and names exactly its current discovered
    dependencies. -/
theorem done_steps_are_settled_with_depfiles (w : World) (m : Bytes) (l : Loader) (e0 : Env)
    (hl : loadEnv w m = .ok (l, e0)) (plain : PlainD e0.g)
    (a : Run.Args) (adopt : Bool) (perms : List (List Nat)) (fin : List (Nat × Sched.Term)) (n : Nat)
    (h : (Run.build (schedGraph e0.g) a (choices adopt perms fin) e0).2.2 = .done n)
    (hsrc : GoodD (Run.build (schedGraph e0.g) a (choices adopt perms fin) e0).1
              (Run.build (schedGraph e0.g) a (choices adopt perms fin) e0).2.1) :
    JD e0 (Run.build (schedGraph e0.g) a (choices adopt perms fin) e0).1
      (Run.build (schedGraph e0.g) a (choices adopt perms fin) e0).2.1 :=
  build_jd w m l e0 hl plain a adopt perms fin (Or.inl ⟨n, h⟩) hsrc

/-- **…also after a FAILED build** (C02's histories include failed builds): the same invariant holds
    at the end of an invocation that stops because a command failed, the `-k` budget ran out or a
    command was interrupted - every step that did complete is settled exactly as after a
    successful build, so the next invocation has only the rest to do. -/
theorem done_steps_are_settled_also_after_a_failed_build (w : World) (m : Bytes) (l : Loader) (e0 : Env)
    (hl : loadEnv w m = .ok (l, e0)) (plain : PlainD e0.g)
    (a : Run.Args) (adopt : Bool) (perms : List (List Nat)) (fin : List (Nat × Sched.Term))
    (h : (∃ n, (Run.build (schedGraph e0.g) a (choices adopt perms fin) e0).2.2 = .done n) ∨
         (Run.build (schedGraph e0.g) a (choices adopt perms fin) e0).2.2 = .failed)
    (hsrc : GoodD (Run.build (schedGraph e0.g) a (choices adopt perms fin) e0).1
              (Run.build (schedGraph e0.g) a (choices adopt perms fin) e0).2.1) :
    JD e0 (Run.build (schedGraph e0.g) a (choices adopt perms fin) e0).1
      (Run.build (schedGraph e0.g) a (choices adopt perms fin) e0).2.1 :=
  build_jd w m l e0 hl plain a adopt perms fin h hsrc

/-- **n2 never skips a step whose inputs, discovered dependencies, command, response file or
    outputs changed or were removed.**  At any point of any invocation whose cached stat() answers
    are truthful: if `check_build_dirty` finds a non-phony step clean (the only way a wanted step is
    skipped), then every dirtying input, every remembered dependency and every output exists, and
    the signature attached to the step at start-up - that of the latest record the log attributes
    to it, `C09.remembered_by_every_later_invocation` - IS the manifest of the tree as it is now:
    names and modification times of the dirtying inputs, of the remembered dependencies and of
    the outputs, the command line, the response file's name and content. -/
theorem never_skips_a_changed_step (e : Env) (hc : Coh e) (b : Nat) (bm : BuildM) (hb : buildOf e.g b = some bm)
    (hnp : bm.cmdline.isNone = false) (hskip : (checkDirty e b).1 = some false) :
    (∀ f ∈ bm.dirtying ++ discOf e b ++ bm.outs, (mtimeOf e f).isSome = true) ∧
    assocGet e.hashes b = some (manifestFs e bm b) :=
  let u := clean_means_upToDate e hc b bm hb hnp hskip
  ⟨u.present, u.recorded⟩

/-- Contrapositive, piece by piece: any difference between the recorded signature and the tree
    (a touched input or dependency, an edited command line, different response-file content, a
    touched output), a removed file, or no record at all means the step is NOT found clean. -/
theorem changed_step_is_not_clean (e : Env) (hc : Coh e) (b : Nat) (bm : BuildM) (hb : buildOf e.g b = some bm)
    (hnp : bm.cmdline.isNone = false)
    (hchg : (∃ f ∈ bm.dirtying ++ discOf e b ++ bm.outs, mtimeOf e f = none) ∨
            assocGet e.hashes b = none ∨
            (∃ h, assocGet e.hashes b = some h ∧
              (h.cmd ≠ bm.cmdline.getD [] ∨ h.rsp ≠ bm.rspfile ∨
               h.ins ≠ bm.dirtying.map (fun f => (fileName e.g f, (mtimeOf e f).getD 0)) ∨
               h.disc ≠ (discOf e b).map (fun f => (fileName e.g f, (mtimeOf e f).getD 0)) ∨
               h.outs ≠ bm.outs.map (fun f => (fileName e.g f, (mtimeOf e f).getD 0))))) :
    (checkDirty e b).1 ≠ some false := by
  intro hskip
  obtain ⟨hp, hr⟩ := never_skips_a_changed_step e hc b bm hb hnp hskip
  rcases hchg with ⟨f, hf, hm⟩ | hn | ⟨h, hh, hd⟩
  · have := hp f hf; rw [hm] at this; cases this
  · rw [hn] at hr; cases hr
  · rw [hh] at hr
    have : h = manifestFs e bm b := Option.some.inj hr
    subst this
    rcases hd with h | h | h | h | h <;> exact h rfl

/-- With the generated inputs already stat()ed (they are: their producers finished first, C01),
    clean and up to date are the same thing. -/
theorem clean_iff_up_to_date (e : Env) (hc : Coh e) (b : Nat) (bm : BuildM) (hb : buildOf e.g b = some bm)
    (hnp : bm.cmdline.isNone = false)
    (hgen : ∀ f ∈ bm.dirtying ++ discOf e b, (fileInput e.g f).isSome = true → Cached e f) :
    (checkDirty e b).1 = some false ↔ UpToDate e b bm :=
  ⟨clean_means_upToDate e hc b bm hb hnp, fun u => (checkDirty_upToDate e b bm hb hc u hgen).1⟩

end N2V.C02
