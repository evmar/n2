/-
  C11 — Variables are expanded with Ninja's scoping rules.
-/
import N2V.Model.Load
import N2V.Lemmas.FileSpec
import N2V.Lemmas.Eval
namespace N2V.C11
open N2V N2V.Eval N2V.Load

/-- Expansion is a homomorphism over concatenation of parts. -/
theorem evalFuel_append (fuel : Nat) (envs : List Env) (a b : EvalStr) :
    evalFuel fuel envs (a ++ b) = evalFuel fuel envs a ++ evalFuel fuel envs b :=
  Eval.evalFuel_append fuel envs a b

theorem evaluate_append (envs : List Env) (a b : EvalStr) :
    evaluate envs (a ++ b) = evaluate envs a ++ evaluate envs b := Eval.evaluate_append envs a b

theorem evaluate_lit (envs : List Env) (b : Bytes) : evaluate envs [.lit b] = b := Eval.evaluate_lit envs b

theorem findEnv_length (envs : List Env) (n : Bytes) (v : EvalStr) (rest : List Env)
    (h : findEnv envs n = some (v, rest)) : rest.length < envs.length := Eval.findEnv_length envs n v rest h

theorem evalFuel_nil (k : Nat) (t : EvalStr) : evalFuel k [] t = evalFuel 0 [] t := Eval.evalFuel_nil k t

theorem evalFuel_indep (j : Nat) : ∀ (k : Nat) (es : List Env) (t : EvalStr),
    es.length ≤ j → es.length ≤ k → evalFuel j es t = evalFuel k es t := Eval.evalFuel_indep j

/-- More fuel than environments changes nothing: expansion cannot recurse deeper than the number
    of scopes, so it always terminates (a variable referring to itself sees only outer scopes). -/
theorem evalFuel_enough (envs : List Env) (s : EvalStr) (k : Nat) (hk : envs.length ≤ k) :
    evalFuel k envs s = evalFuel envs.length envs s :=
  Eval.evalFuel_indep k envs.length envs s hk (Nat.le_refl _)

/-- **First scope wins, and the value found there is expanded in the scopes AFTER it only.** -/
theorem first_env_wins (e : Env) (rest : List Env) (n : Bytes) (v : EvalStr) (h : e n = some v) :
    evaluate (e :: rest) [.var n] = evaluate rest v := by
  rw [evaluate_var]; simp only [findEnv, h]

theorem skip_env (e : Env) (rest : List Env) (n : Bytes) (h : e n = none) :
    evaluate (e :: rest) [.var n] = evaluate rest [.var n] := by
  rw [evaluate_var, evaluate_var]; simp only [findEnv, h]

/-- **Undefined variables expand to the empty string.** -/
theorem undefined_empty (envs : List Env) (n : Bytes) (h : findEnv envs n = none) :
    evaluate envs [.var n] = [] := by
  rw [evaluate_var, h]

/-- **A step attribute bound in the build block is expanded in file scope as of that statement**
    — it sees neither `$in/$out` nor sibling build bindings. -/
theorem build_binding_in_file_scope (bvars rule : EvalMap) (imp env : Env) (key : Bytes) (v : EvalStr)
    (h : Eval.lookup bvars key = some v) : attr bvars rule imp env key = some (evaluate [env] v) := by
  unfold attr; rw [h]

/-- **Otherwise the rule's binding is expanded with `$in/$out`, then the build block, then file
    scope.** -/
theorem rule_binding_scopes (bvars rule : EvalMap) (imp env : Env) (key : Bytes) (v : EvalStr)
    (hb : Eval.lookup bvars key = none) (hr : Eval.lookup rule key = some v) :
    attr bvars rule imp env key = some (evaluate [imp, envOfEval bvars, env] v) := by
  unfold attr; rw [hb, hr]; rfl

theorem attr_absent (bvars rule : EvalMap) (imp env : Env) (key : Bytes)
    (hb : Eval.lookup bvars key = none) (hr : Eval.lookup rule key = none) :
    attr bvars rule imp env key = none := by
  unfold attr; rw [hb, hr]; rfl

/-- `SmallMap::insert`: the latest binding of a name is the one looked up. -/
theorem lookup_insert_same {β} (m : List (Bytes × β)) (k : Bytes) (v : β) :
    Eval.lookup (Eval.insert m k v) k = some v := Eval.lookup_insert_same m k v

theorem lookup_insert_other {β} (m : List (Bytes × β)) (k k2 : Bytes) (v : β) (h : k2 ≠ k) :
    Eval.lookup (Eval.insert m k v) k2 = Eval.lookup m k2 := Eval.lookup_insert_other m k k2 v h

/-- **Top-down**: a later redefinition of `k` does not change what an earlier statement saw for
    any other name, and what it saw for `k` was the value in force at that statement (bindings
    are evaluated when defined — `stmtLoop` threads the scope forward only). -/
theorem later_binding_local (vars : StrMap) (k k2 : Bytes) (v : Bytes) (h : k2 ≠ k) :
    envOfStr (Eval.insert vars k v) k2 = envOfStr vars k2 := by
  unfold envOfStr; rw [lookup_insert_other _ _ _ _ h]

/-- Finding F12, stated: in n2 an `include`d file gets a copy of the scope like `subninja`; the
    bindings it makes are NOT visible to the rest of the including file (`load` is
    `loadWith false`).  The property asks for the opposite; `loadWith true` is that
    specification, and the check reports every input on which the two differ — e.g. the corpus
    witness `include i` / `build $x: phony` with `x = out` in `i` — as the known finding. -/
theorem include_is_copy_in_n2 (parent child : StrMap) : afterInclude false parent child = parent := rfl

theorem include_extends_in_spec (parent child : StrMap) : afterInclude true parent child = child := rfl

/-- **Top-down, at file level.**  For a manifest read as a sequence of statements
    (`C10.manifest_read_as_written`): what the first statements do - the scope their bindings
    build, the steps their `build` statements add, each with its variables evaluated in the scope as
    of its own line - is a function of those statements alone; whatever is written after them
    (a re-binding of the same name included) only continues from that state. -/
theorem top_down_at_file_level (ie : Bool) (fs : Fs) (depth : Nat)
    (sub : Loader → Bytes → Bytes → StrMap → Nat → Except LoadErr (Loader × StrMap))
    (file : Bytes) (a b : List Parse.Item) (l : Loader) (vars : StrMap) :
    applyItems ie fs depth sub file (a ++ b) l vars =
      match runItems ie fs depth sub file a l vars with
      | .error e => .error e
      | .ok (l', vars') => applyItems ie fs depth sub file b l' vars' :=
  applyItems_append ie fs depth sub file a b l vars

/-- A top-level binding is evaluated once, in the scope of the lines before it. -/
theorem binding_evaluated_where_written (ie : Bool) (fs : Fs) (depth : Nat)
    (sub : Loader → Bytes → Bytes → StrMap → Nat → Except LoadErr (Loader × StrMap))
    (file : Bytes) (name : Bytes) (val : EvalStr) (rest : List Parse.Item) (l : Loader) (vars : StrMap) :
    runItems ie fs depth sub file (.binding name val :: rest) l vars =
      runItems ie fs depth sub file rest l (Eval.insert vars name (evaluate [envOfStr vars] val)) := rfl

/-- **`subninja` has a private scope**: whatever the sub-file binds, the including file goes on
    with the scope it had (the sub-file starts from a copy: `sub` receives `vars`). -/
theorem subninja_scope_is_private (ie : Bool) (fs : Fs) (depth : Nat)
    (sub : Loader → Bytes → Bytes → StrMap → Nat → Except LoadErr (Loader × StrMap))
    (file : Bytes) (l l' : Loader) (vars vars' : StrMap) (p : EvalStr)
    (h : applyItem ie fs depth sub file l vars (.stmt (.subninja p)) = .ok (l', vars')) : vars' = vars := by
  obtain ⟨_, _, _, _, _, _, hv⟩ := applyItem_nested_ok.2 h
  exact hv

/-- **`include` in n2 (finding F12, open)**: the including file also goes on with its OWN scope -
    bindings made by the included file are lost; under Ninja's rule (`ie = true`, the executable
    specification the C11 monitor compares with) it goes on with the scope the included file ended
    with. -/
theorem include_scope (ie : Bool) (fs : Fs) (depth : Nat)
    (sub : Loader → Bytes → Bytes → StrMap → Nat → Except LoadErr (Loader × StrMap))
    (file : Bytes) (l l' : Loader) (vars vars' : StrMap) (p : EvalStr)
    (h : applyItem ie fs depth sub file l vars (.stmt (.include p)) = .ok (l', vars')) :
    ∃ l1 name content child, sub l1 name content vars (depth + 1) = .ok (l', child) ∧
      vars' = afterInclude ie vars child := by
  obtain ⟨l1, _, content, child, _, hs, hv⟩ := applyItem_nested_ok.1 h
  exact ⟨l1, _, content, child, hs, hv⟩

end N2V.C11
