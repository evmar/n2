/-
  C12 — Any input is either loaded or rejected with a diagnostic.
-/
import N2V.Model.Load
import N2V.Lemmas.DepfileTotal
import N2V.Lemmas.ParseTotal
import N2V.Lemmas.LoadTotal
import N2V.Model.Depfile
namespace N2V.C12
open N2V N2V.Scanner N2V.Load

theorem boundaryAtOrBelow_le (s : Bytes) (m : Nat) : boundaryAtOrBelow s m ≤ m := by
  induction m with
  | zero => simp [boundaryAtOrBelow]
  | succ m ih => unfold boundaryAtOrBelow; split <;> omega

theorem boundaryAtOrBelow_boundary (s : Bytes) (m : Nat) :
    isCharBoundary s (boundaryAtOrBelow s m) = true := by
  induction m with
  | zero => simp [boundaryAtOrBelow, isCharBoundary]
  | succ m ih => unfold boundaryAtOrBelow; split <;> assumption

/-- Total size of the lines `split` produces: every byte once, plus one separator per line. -/
def linesSize (ls : List Bytes) : Nat := (ls.map (fun l => l.length + 1)).sum

theorem splitLines_size (bs cur : Bytes) : linesSize (splitLines bs cur) = cur.length + bs.length + 1 := by
  induction bs generalizing cur with
  | nil => simp [splitLines, linesSize]
  | cons c r ih =>
    unfold splitLines
    split
    · have := ih []
      unfold linesSize at this ⊢
      simp only [List.map_cons, List.sum_cons]
      rw [this]; simp; omega
    · rw [ih]; simp; omega

/-- `format_parse_error` always finds the line of the error and never hits its
    `panic!("invalid offset")`, for any buffer and any offset inside it (finding F2 repaired:
    the two cut points are moved to character boundaries, so the slicing cannot panic either —
    there is no panic outcome left in the model of the excerpt computation). -/
theorem formatLines_ok (errOfs : Nat) (ls : List Bytes) (lineNo ofs : Nat)
    (h1 : ls ≠ []) (h2 : errOfs + 1 ≤ ofs + linesSize ls) :
    ∃ v, formatLines errOfs ls lineNo ofs = .ok v ∧ lineNo < v.line := by
  induction ls generalizing lineNo ofs with
  | nil => exact absurd rfl h1
  | cons l rest ih =>
    unfold formatLines
    split
    · exact ⟨_, rfl, by simp⟩
    · rename_i hlt
      have hrest : rest ≠ [] := by
        intro e; subst e
        simp [linesSize] at h2; omega
      have := ih (lineNo + 1) (ofs + l.length + 1) hrest (by
        simp only [linesSize, List.map_cons, List.sum_cons] at h2 ⊢; omega)
      obtain ⟨v, hv, hl⟩ := this
      exact ⟨v, hv, by omega⟩

theorem splitLines_ne_nil (bs cur : Bytes) : splitLines bs cur ≠ [] := by
  induction bs generalizing cur with
  | nil => simp [splitLines]
  | cons c r ih => unfold splitLines; split <;> simp [ih]

theorem format_total (buf : Array UInt8) (errOfs : Nat) (h : errOfs ≤ buf.size) :
    ∃ v, formatParseError buf errOfs = .ok v ∧ 1 ≤ v.line := by
  unfold formatParseError
  have hs := splitLines_size buf.toList []
  obtain ⟨v, hv, hl⟩ := formatLines_ok errOfs (splitLines buf.toList []) 0 0 (splitLines_ne_nil _ _)
    (by rw [hs]; simp; omega)
  exact ⟨v, hv, by omega⟩

theorem cutTail_len (ctx : Bytes) : (cutTail ctx).length ≤ 43 := by
  unfold cutTail
  split
  · have := boundaryAtOrBelow_le ctx 40
    simp [dots]; omega
  · omega

/-- The tail cut lands on a character boundary of the line (so `&context[0..end]` cannot panic). -/
theorem cutTail_boundary (ctx : Bytes) : isCharBoundary ctx (boundaryAtOrBelow ctx 40) = true :=
  boundaryAtOrBelow_boundary ctx 40

/-- The excerpt shown is bounded: at most 3 + 40 + 3 bytes. -/
theorem excerpt_bounded (line : Bytes) (col0 : Nat) : (excerptOf line col0).1.length ≤ 46 := by
  unfold excerptOf
  split
  · have := cutTail_len (List.drop (boundaryAtOrBelow line (col0 - 20)) line)
    simp [dots] at *; omega
  · have := cutTail_len line; simp; omega

theorem formatLines_bounded (errOfs : Nat) (ls : List Bytes) (lineNo ofs : Nat) (v : ErrView)
    (h : formatLines errOfs ls lineNo ofs = .ok v) : v.excerpt.length ≤ 46 := by
  induction ls generalizing lineNo ofs with
  | nil => simp [formatLines] at h
  | cons l rest ih =>
    unfold formatLines at h
    split at h
    · cases h; exact excerpt_bounded _ _
    · exact ih _ _ h

/-- Canonicalisation of any target string or manifest path either succeeds or is the one
    explicit refusal of the empty string, which every caller checks first (repairs of F3, F4). -/
theorem canon_total (s : Bytes) : (∃ t, Canon.canon s = .ok t) ∨ s = [] := by
  by_cases h : s = []
  · exact Or.inr h
  · exact Or.inl (Canon.canon_ok h)

/-- The loader refuses an empty path with a diagnostic instead of reaching the assertion. -/
theorem empty_path_diagnosed (l : Loader) : ∃ e, path l [] = .error e := ⟨_, rfl⟩

/-- Include nesting is bounded: a file that includes itself is diagnosed (F14), the recursion
    is structural in the remaining depth. -/
theorem include_depth_bounded (ext : Bool) (fs : Fs) (l : Loader) (file content : Bytes) (vars : Eval.StrMap) (d : Nat) :
    ∃ e, parseFile ext fs 0 l file content vars d = .error e := ⟨_, rfl⟩

/-- **Every depfile is either read or rejected with a diagnostic** (byte level, all inputs): the
    model of `depfile::parse` — scanner with its NUL sentinel, `back` including its `\r\n` quirk,
    line counter, every loop — returns entries or a parse error whose offset lies inside the
    NUL-terminated buffer, for EVERY byte string; the outcomes "read outside the buffer", "stepped
    back before the start", "line counter wrapped" and "out of fuel" (= a loop that does not
    advance) are unreachable (Lemmas/Scanner: `SW.read`, `back_lands`; Lemmas/DepfileTotal). -/
theorem depfile_parse_total (text : Bytes) : match Depfile.parse text with
    | .ok _ _ => True
    | .perr _ o => o ≤ text.length + 1
    | .bad _ => False := Depfile.parse_total text

/-- **Every manifest (and included file) is either parsed or rejected with a diagnostic** (byte
    level, all inputs).  For every file content, the scanner `Scanner::new` builds over the
    NUL-terminated buffer is in good standing, and from any position in good standing one round of
    `Parser::read` (`readItem`: blank lines, comments, `rule`/`build`/`default`/`include`/
    `subninja`/`pool` statements with all their sub-parsers, bindings, `$`-escapes, continuations)
    returns an item or a parse error with an offset INSIDE the buffer, leaving the scanner in good
    standing again; every item other than end-of-file consumed at least one byte, so the statement
    loop ends after at most `size` rounds.  The abnormal outcomes of the model — a read outside the buffer,
    `back` before the start, a wrapped line counter, running out of fuel in any of the parser's
    eight loops — are unreachable.  (`Ok1` excludes them by definition; Lemmas/ParseTotal.) -/
theorem manifest_parse_total (text : Bytes) :
    ∃ s0, Scanner.new (text ++ [Scanner.NUL]).toArray = .ok s0 ∧
      ∀ s, Depfile.G (text ++ [Scanner.NUL]).toArray s →
        Parse.Ok1 (text ++ [Scanner.NUL]).toArray.size (fun it s' => Depfile.G (text ++ [Scanner.NUL]).toArray s' ∧ s.ofs ≤ s'.ofs ∧
              ((match it with | .eof => False | _ => True) → s.ofs < s'.ofs))
          (Parse.readItem ((text ++ [Scanner.NUL]).toArray.size + 1) s) ∧
        Depfile.G (text ++ [Scanner.NUL]).toArray s0 :=
  Parse.readItem_total text

/-- What "never abnormal" means: `Ok1 P r` holds only of values and parse errors. -/
theorem ok1_excludes_abnormal {α : Type} (B : Nat) (P : α → Scanner → Prop) (r : Res Unit) : ¬ Parse.Ok1 B P (.bad r) :=
  fun h => h

/-- The scanner facts everything rests on: a read at a readable position of a well-formed scanner
    succeeds and keeps it well-formed; `back` after at least one byte succeeds, keeps the line
    counter exact (no wrap), and lands one byte back — or two, on the `\r` of a `\r\n` (the quirk
    of scanner.rs l.63-66) — never on a `\n` that follows a `\r`. -/
theorem scanner_back_sound {buf : Array UInt8} {s : Scanner} (w : Scanner.SW buf s) (h : 0 < s.ofs) :
    ∃ s', s.back = .ok s' ∧ Scanner.SW buf s' ∧ Scanner.NCR buf s'.ofs ∧ s'.ofs < buf.size := by
  obtain ⟨s', hb, g', -⟩ := Depfile.back_ge w 0 h fun _ hx => Nat.lt_irrefl 0 hx.2.1
  exact ⟨s', hb, g'.w, g'.ncr, g'.lt⟩

/-- **Any manifest is either loaded or rejected with a diagnostic** — the whole loader, for every
    file system content and every manifest name (all bytes, any `include`/`subninja` nesting,
    self-including files): `load::read` (up to opening the log) returns a loader with a consistent
    graph, or one of: a parse error, a duplicate-output error, `empty path`, an unreadable file,
    `include nesting`, `unknown rule`, an invalid `deps` value, an unpaired `rspfile`.  The model's
    internal outcomes (panic in path canonicalisation, an unknown file id in `add_build`, a scanner
    made over an unterminated buffer, a read outside a buffer, a statement loop or parser loop that
    runs out of fuel) are unreachable. -/
theorem load_total (fs : Fs) (main : Bytes) :
    match load fs main with
    | .ok l => GInv l.graph
    | .error e => Diagnosed e := by
  have h := Load.load_total false fs main
  unfold load
  cases hl : loadWith false fs main with
  | ok l => rw [hl] at h; exact h
  | error e => rw [hl] at h; exact h

/-- **... and the diagnostic of a parse error can always be rendered**: every parse error the
    loader reports (in the main manifest or any included file) carries an offset that lies inside
    the buffer it was found in — `Diagnosed` records that, carried through every parser function by
    `Parse.Ok1` — so `format_parse_error` finds its line and produces the excerpt (`format_total`);
    its "invalid offset when formatting error" panic is unreachable from `load::read`. -/
theorem parse_errors_are_rendered (fs : Fs) (main : Bytes) (file : Bytes) (msg : String) (ofs : Nat) (view : Res ErrView)
    (h : load fs main = .error (.parse file msg ofs view)) : ∃ v, view = .ok v ∧ 1 ≤ v.line := by
  have ht := load_total fs main
  rw [h] at ht
  obtain ⟨buf, hle, hv⟩ := ht
  obtain ⟨v, hfv, hl⟩ := format_total buf ofs hle
  exact ⟨v, by rw [hv, hfv], hl⟩

/-- `Diagnosed` spelled out: the model's internal error kinds are not among the diagnostics. -/
theorem diagnosed_excludes_internal (k : String)
    (hk : k ∈ ["internal: bad file id", "internal: fuel", "internal: scanner", "internal: canon", "oob", "overflow",
      "fuel", "bad", "panic: canon"]) : ¬ Diagnosed (.other k) := by
  revert k
  show ∀ k ∈ _, k ∉ _
  decide

end N2V.C12
