/-
  C15 — Depfiles are read as the compiler wrote them.
  Property theorems about `N2V.Depfile` (model of depfile.rs and task.rs::read_depfile).
-/
import N2V.Model.Depfile
import N2V.Lemmas.DepfileTotal
import N2V.Lemmas.DepfileSpec
namespace N2V.C15
open N2V N2V.Depfile

/-- Recording an entry never loses or invents a prerequisite (any targets, repeated or not). -/
theorem mem_flatten_addEntry (es : Entries) (t : Bytes) (d : List Bytes) (x : Bytes) :
    x ∈ flatten (addEntry es t d) ↔ x ∈ flatten es ∨ x ∈ d :=
  (flatten_addEntry_perm es t d).mem_iff.trans List.mem_append

theorem length_flatten_addEntry (es : Entries) (t : Bytes) (d : List Bytes) :
    (flatten (addEntry es t d)).length = (flatten es).length + d.length :=
  (flatten_addEntry_perm es t d).length_eq.trans List.length_append

/-- A target seen for the first time goes to the end, with its prerequisites in order. -/
theorem flatten_addEntry_fresh (es : Entries) (t : Bytes) (d : List Bytes)
    (h : t ∉ es.map (·.1)) : flatten (addEntry es t d) = flatten es ++ d := by
  induction es with
  | nil => simp [addEntry, flatten]
  | cons e es ih =>
    obtain ⟨k, v⟩ := e
    have hk : ¬ k = t := fun hk => h (hk ▸ List.mem_cons_self)
    unfold addEntry
    simp only [if_neg hk, flatten, List.flatMap_cons, List.append_assoc]
    exact congrArg (v ++ ·) (ih fun hm => h (List.mem_cons_of_mem _ hm))

theorem keys_addEntry_fresh (es : Entries) (t : Bytes) (d : List Bytes)
    (h : t ∉ es.map (·.1)) : (addEntry es t d).map (·.1) = es.map (·.1) ++ [t] := by
  induction es with
  | nil => rfl
  | cons e es ih =>
    obtain ⟨k, v⟩ := e
    have hk : ¬ k = t := fun hk => h (hk ▸ List.mem_cons_self)
    unfold addEntry
    simp only [if_neg hk, List.map_cons, List.cons_append]
    exact congrArg (k :: ·) (ih fun hm => h (List.mem_cons_of_mem _ hm))

/-- The entries recorded for a whole depfile, in the order `parse` meets them. -/
def record (l : Entries) : Entries := l.foldl (fun acc e => addEntry acc e.1 e.2) []

theorem flatten_foldl_distinct (l acc : Entries)
    (hd : ((acc ++ l).map (·.1)).Nodup) :
    flatten (l.foldl (fun acc e => addEntry acc e.1 e.2) acc) = flatten acc ++ flatten l := by
  induction l generalizing acc with
  | nil => simp [flatten]
  | cons e l ih =>
    rw [List.map_append, List.map_cons, List.nodup_append] at hd
    have hfresh : e.1 ∉ acc.map (·.1) := fun hm => hd.2.2 _ hm _ List.mem_cons_self rfl
    rw [List.foldl_cons, ih, flatten_addEntry_fresh _ _ _ hfresh, List.append_assoc]
    · rfl
    · rw [List.map_append, keys_addEntry_fresh _ _ _ hfresh, List.append_assoc]
      exact List.nodup_append.2 hd

/-- `flatten`: for pairwise distinct targets the discovered dependencies are exactly the
    listed prerequisites of all targets, in order. -/
theorem flatten_distinct (l : Entries) (hd : (l.map (·.1)).Nodup) :
    flatten (record l) = l.flatMap (·.2) :=
  flatten_foldl_distinct l [] hd

/-- `flatten`, any targets (repeated ones included — finding F11, repaired): every listed
    prerequisite is discovered, nothing else is, and none is dropped. -/
theorem flatten_complete (l : Entries) (x : Bytes) :
    x ∈ flatten (record l) ↔ x ∈ l.flatMap (·.2) :=
  (flatten_foldl_addEntry_perm l []).mem_iff

theorem flatten_count (l : Entries) :
    (flatten (record l)).length = (l.flatMap (·.2)).length :=
  (flatten_foldl_addEntry_perm l []).length_eq

/-- Non-vacuity / regression for F11: `a: x` then `a: y` yields both. -/
example : flatten (record [([97], [[120]]), ([97], [[121]])]) = [[120], [121]] := by decide

/-- **Every depfile is either read or rejected with a diagnostic** (byte level, all inputs): the
    model of `depfile::parse` — scanner with its NUL sentinel, `back` including its `\r\n` quirk,
    line counter, every loop — returns entries or a parse error whose offset lies inside the
    NUL-terminated buffer, for EVERY byte string; the outcomes "read outside the buffer", "stepped
    back before the start", "line counter wrapped" and "out of fuel" (= a loop that does not
    advance) are unreachable (Lemmas/Scanner: `SW.read`, `back_lands`; Lemmas/DepfileTotal). -/
theorem depfile_parse_total (text : Bytes) : match Depfile.parse text with
    | .ok _ _ => True
    | .perr _ o => o ≤ text.length + 1
    | .bad _ => False := Depfile.parse_total text

/-- **Depfiles are read as the compiler wrote them** (byte level).  For every list of entries
    `target: prerequisite ...` — any number of targets; targets and prerequisites any non-empty
    runs of path bytes (everything except NUL, space, newline, backslash, CR: colons inside
    Windows-style paths included); any number of spaces before the colon; before each
    prerequisite and after the last one any gap of spaces and backslash-newline continuations;
    any blank space (spaces, blank lines) before, between and after entries — `depfile::parse`
    returns exactly the listed targets with exactly the listed prerequisites, in order.  With
    `flatten_distinct` / `flatten_complete` above: the discovered dependencies are exactly the
    listed prerequisites of all targets.  (A last line without final newline is the next theorem;
    CR LF line ends are covered by the correspondence run only.) -/
theorem parse_reads_what_was_written (es : List FEntry) (hwf : ∀ e ∈ es, EntryWF e) (eb : Bytes)
    (heb : blankOk eb) :
    ∃ s, parse (bodyBytes es eb) = .ok (record (entriesOf es)) s :=
  parse_spec es hwf eb heb

/-- ... and the same when the file ends right after the last entry, without a final newline
    (`out: a b` + EOF): that entry is read like the others. -/
theorem parse_reads_last_line_without_newline (es : List FEntry) (hwf : ∀ e ∈ es, EntryWF e) (last : FEntry)
    (hl : EntryWF last) :
    ∃ s, parse (bodyBytes es (last.blank ++ entryCore last)) = .ok (record (entriesOf (es ++ [last]))) s := by
  obtain ⟨s, h⟩ := parse_spec_no_final_newline es hwf last hl
  refine ⟨s, ?_⟩
  rw [h]
  simp [record, entriesOf, List.foldl_append]

/-- Non-vacuity: `a.o: a.c \\\n  b.h\n\nc: d\n` as an instance of the format. -/
example : bodyBytes
    [⟨[], [97, 46, 111], 0, [([.sp], [97, 46, 99]), ([.sp, .cont, .sp, .sp], [98, 46, 104])], []⟩,
     ⟨[10], [99], 1, [([.sp], [100])], [.sp]⟩] []
    = [97,46,111,58,32,97,46,99,32,92,10,32,32,98,46,104,10,10,99,32,58,32,100,32,10] := by decide

end N2V.C15
