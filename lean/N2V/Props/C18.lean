/-
  C18 — Exactly the requested closure is considered.
-/
import N2V.Lemmas.SchedClosure
import N2V.Lemmas.SchedComplete
import N2V.Lemmas.SchedExamples
import N2V.Model.Run
namespace N2V.C18
open N2V N2V.Sched

/-- Target lookup goes through canonicalisation: two spellings with the same canonical form
    resolve to the same file (or are both unknown). -/
theorem lookup_spelling (g : Graph) (n n' : Bytes) (h : Canon.canon n = Canon.canon n') :
    Run.lookup g n = Run.lookup g n' := by
  unfold Run.lookup; rw [h]

/-- A command-line name that is not a file of the loaded manifest is rejected (outside
    `-t restat` mode) and nothing after it is looked at. -/
theorem unknown_rejected (g : Graph) (a : Run.Args) (s : S) (n : Bytes) (ns : List Bytes)
    (hl : Run.lookup g n = .ok none) (had : a.adopt = false) :
    Run.wantTargets g a s (n :: ns) = .err ("unknown path requested: " ++ stringOfBytes n) s := by
  unfold Run.wantTargets; simp [Run.lookupM, hl, had]

/-- ... and so is a name that only the build log knows (an output of a step that was removed
    from the manifest, a header seen in a depfile): file ids at or beyond `manifest_files` do not
    resolve (finding F13, repaired). -/
theorem log_only_name_rejected (g : Graph) (a : Run.Args) (s : S) (n : Bytes) (ns : List Bytes) (t k : Nat)
    (hl : Run.lookup g n = .ok (some t)) (hk : a.manifestFiles = some k) (hge : k ≤ t) (had : a.adopt = false) :
    Run.wantTargets g a s (n :: ns) = .err ("unknown path requested: " ++ stringOfBytes n) s := by
  have hnot : ¬ t < k := by omega
  unfold Run.wantTargets; simp [Run.lookupM, hl, hk, hnot, had]

/-- The manifest itself, named as a target, is not wanted a second time. -/
theorem manifest_target_skipped (g : Graph) (a : Run.Args) (s : S) (n : Bytes) (ns : List Bytes)
    (hl : Run.lookupM g a n = .ok (some a.manifest)) :
    Run.wantTargets g a s (n :: ns) = Run.wantTargets g a s ns := by
  conv => lhs; unfold Run.wantTargets
  simp [hl]

/-- Only builds that were Unknown can be drawn into the wanted set, and only as Want/Ready:
    requesting more targets never disturbs builds that are queued, running or finished. -/
theorem want_only_adds (g : Graph) (s s' : S) (f : Nat) (h : want g s f = .ok () s') (b : Nat) (x : St)
    (hx : late x) : (s'.st b = x ↔ s.st b = x) :=
  (want_lateEq h).1 b x hx

/-- **No step outside the requested closure is ever considered, let alone run**: in any
    `run::build` — any graph, arguments, environment behaviour, outcome — a build leaves
    `Unknown` only if a requested file needs it: the manifest, a command-line name that resolves,
    else a `default` target, else any file (`Run.Requested`), through explicit, implicit,
    order-only or validation inputs (`Needs`).  (`Work::run` itself never draws anything in:
    `runLoop_keeps`.) -/
theorem only_requested_closure {E : Type} {g : Graph} (gok : GraphOK g) (a : Run.Args) (c : Choices E) (e : E)
    (b : Nat) (hb : (Run.build g a c e).1.st b ≠ .unknown) :
    ∃ f, Run.Requested g a f ∧ Needs g f b :=
  Run.build_only_requested gok a c e b hb

/-- In particular a command is started only for such a build (a `start` event is preceded by the
    build's `set .. Running`, so its state is not `Unknown`). -/
theorem started_only_if_requested {E : Type} {g : Graph} (gok : GraphOK g) (a : Run.Args) (c : Choices E) (e : E)
    (b : Nat) (hs : stOf (Run.build g a c e).1.trace b ≠ .unknown) :
    ∃ f, Run.Requested g a f ∧ Needs g f b := by
  apply Run.build_only_requested gok a c e b
  rw [← (Run.build_tinv gok a c e).st]; exact hs

/-- What one `want_file` may mark. -/
theorem want_marks_only_needed (g : Graph) (s s' : S) (f : Nat) (h : want g s f = .ok () s') (b : Nat)
    (hb : s'.st b ≠ .unknown) : s.st b ≠ .unknown ∨ Needs g f b :=
  want_touch_ok h b hb

/-- Non-vacuity: in the example, the step producing `c` needs the step producing `b`. -/
example : Needs Ex.g0 2 0 :=
  .step (b := 1) (f' := 1) (.direct (show Ex.g0.producer 2 = some 1 by decide)) (by decide)
    (.direct (show Ex.g0.producer 1 = some 0 by decide))

/-- **... and everything in the requested closure IS considered**: when `run::build` reports
    success, every build that a requested file — the manifest; the command-line names that
    resolve, else the `default`s, else every file — needs through explicit, implicit, order-only
    or validation inputs has left `Unknown` (and, by `C06.success_means_all_up_to_date`, is Done).
    Together with `only_requested_closure`: exactly the requested closure.  Proof: the want phase
    keeps "every marked build that is not inside its own loop over validation inputs has the
    producers of all its inputs marked" (`Sched.want_closed`, over every successful call of
    `want_file` / `want_build` / the two input loops, re-entrant visits included), and neither
    `Work::run` nor later `want_file` calls un-mark anything (`runLoop_mono`, `want_mono`). -/
theorem requested_closure_is_marked {E : Type} {g : Graph} (gok : GraphOK g) (a : Run.Args) (c : Choices E) (e : E)
    (n : Nat) (h : (Run.build g a c e).2.2 = .done n) (b : Nat) (hW : Run.Wanted g a b) :
    (Run.build g a c e).1.st b ≠ .unknown :=
  Run.build_complete gok a c e n h b hW

end N2V.C18
