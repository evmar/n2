/-
  C16 — Commands run as written and their output is shown intact.
  The logic is proved here; process spawning, descriptor inheritance, pipes and signals are
  observed on the real `run_command` and the real binary (see DESIGN.md §7 C16).
-/
import N2V.Model.Task
namespace N2V.C16
open N2V N2V.Task

/-- **Exit status 0 is success, any other status is a failure** — for every exit code. -/
theorem exit_status (c : Nat) :
    decodeStatus (exitStatus c) = (if c % 256 = 0 then .success else .failure) := by
  unfold decodeStatus exitStatus
  dsimp only
  rw [Nat.mod_eq_zero_of_dvd (Nat.dvd_mul_left_of_dvd (by decide) _), Nat.mul_div_cancel _ (by decide),
    Nat.mod_mod, if_pos (beq_self_eq_true 0)]
  by_cases hc : c % 256 = 0
  · rw [if_pos hc, hc]; rfl
  · rw [if_neg hc, if_neg fun h => hc (eq_of_beq h)]

/-- **A signal is a failure, SIGINT an interruption** — for every terminating signal, with or
    without the core-dump flag. -/
theorem signal_status (s : Nat) (core : Bool) (h1 : 1 ≤ s) (h2 : s ≤ 126) :
    decodeStatus (signalStatus s core) = (if s = SIGINT then .interrupted else .failure) := by
  have hl : signalStatus s core % 128 = s := by
    have hs : s % 128 = s := Nat.mod_eq_of_lt (Nat.lt_of_le_of_lt h2 (by decide))
    cases core
    · exact hs
    · exact (Nat.add_mod_right s 128).trans hs
  unfold decodeStatus
  dsimp only
  rw [hl, if_neg fun h => absurd (eq_of_beq h ▸ h1) (by decide),
    if_neg fun h => absurd (eq_of_beq h ▸ h2) (by decide)]
  by_cases hs : s = SIGINT
  · rw [if_pos hs, hs]; rfl
  · rw [if_neg hs, if_neg fun h => hs (eq_of_beq h)]

/-- Cut a stream into reads of the given sizes (the last read takes the rest). -/
def cutAt : Bytes → List Nat → List Bytes
  | s, [] => [s]
  | s, n :: ns => s.take n :: cutAt (s.drop n) ns

/-- **Every byte, in order, whatever the read boundaries**: however the kernel cuts the
    command's output into reads, what `run_task` accumulates is the stream. -/
theorem chunks_reassemble (s : Bytes) (sizes : List Nat) : accumulate (cutAt s sizes) = s := by
  induction sizes generalizing s with
  | nil => simp [cutAt, accumulate]
  | cons n ns ih =>
    simp only [cutAt, accumulate, List.flatten_cons]
    have := ih (s.drop n)
    simp only [accumulate] at this
    rw [this, List.take_append_drop]

/-- The pieces `DumbConsoleProgress` prints, one per callback. -/
def piece (last : Option Nat) : PEv → Bytes
  | .started _ msg => msg ++ [NL]
  | .finished id msg t output hide =>
    (match t with
      | .success => if output.isEmpty || last == some id then [] else msg ++ [NL]
      | .interrupted => "interrupted: ".toUTF8.toList ++ msg ++ [NL]
      | .failure => "failed: ".toUTF8.toList ++ msg ++ [NL])
    ++ (if output.isEmpty || (t == .success && hide) then [] else output)

def lastAfter (last : Option Nat) : PEv → Option Nat
  | .started id _ => some id
  | .finished .. => last

def pieces : List PEv → Option Nat → List Bytes
  | [], _ => []
  | e :: rest, last => piece last e :: pieces rest (lastAfter last e)

/-- **Printed once, contiguously, when it finishes**: the console stream is the concatenation,
    in callback order, of one piece per callback; the piece of a finished command is its header
    followed by its whole output as one block (or nothing, when the output is empty or the rule
    hides successful output) — for every interleaving of starts and finishes. -/
theorem printed_once (evs : List PEv) (last : Option Nat) :
    dumbPrint evs last = (pieces evs last).flatten := by
  induction evs generalizing last with
  | nil => rfl
  | cons e rest ih =>
    cases e with
    | started id msg => exact congrArg (msg ++ [NL] ++ ·) (ih (some id))
    | finished id msg t output hide => exact congrArg (piece last (.finished id msg t output hide) ++ ·) (ih last)

/-- A failed or interrupted command's output is never hidden. -/
theorem failure_output_shown (last : Option Nat) (id : Nat) (msg output : Bytes) (hide : Bool)
    (hne : output ≠ []) :
    ∃ header, piece last (.finished id msg .failure output hide) = header ++ output := by
  cases output with
  | nil => exact absurd rfl hne
  | cons b o => exact ⟨_, rfl⟩

def isNote (l : Bytes) : Bool := (stripPrefix notePrefix l).isSome

def joinLines : List Bytes → Bytes
  | [] => []
  | [l] => l
  | l :: rest => l ++ [NL] ++ joinLines rest

theorem extractLines_spec (ls : List Bytes) (first : Bool) (incs : List Bytes) (out : Bytes) :
    extractLines ls first incs out =
      (incs ++ (ls.filterMap (stripPrefix notePrefix)).map notePayload,
       match ls.filter (fun l => !isNote l) with
       | [] => out
       | kept => if first then out ++ joinLines kept else out ++ [NL] ++ joinLines kept) := by
  induction ls generalizing first incs out with
  | nil => simp [extractLines]
  | cons l rest ih =>
    rw [extractLines, List.filterMap_cons, List.filter_cons, isNote]
    cases hs : stripPrefix notePrefix l with
    | some inc =>
      dsimp only
      rw [ih, List.append_assoc]
      rfl
    | none =>
      dsimp only
      rw [ih, Option.isSome_none, Bool.not_false, if_pos rfl]
      cases hk : rest.filter (fun l => !isNote l) with
      | nil => rfl
      | cons k ks => cases first <;> simp only [joinLines, List.append_assoc, Bool.false_eq_true, if_false, if_true]

/-- `/showIncludes` filtering, characterised: the includes are the payloads of the note lines in
    order, and what is shown is the other lines, in order, re-joined — no note line survives
    and no other line is lost (finding F10 repaired: leading empty lines stay). -/
theorem showincludes_spec (output : Bytes) :
    extractShowIncludes output =
      (((splitNL output []).filterMap (stripPrefix notePrefix)).map notePayload,
       joinLines ((splitNL output []).filter (fun l => !isNote l))) := by
  unfold extractShowIncludes
  rw [extractLines_spec]
  simp only [List.nil_append, if_true]
  cases (splitNL output []).filter (fun l => !isNote l) <;> simp [joinLines]

/-- `create_parent_dirs` keeps what was already handled and hands the parent of every output to
    `create_dir_all` (whatever else the step lists, in whatever order, however the directories
    nest). -/
theorem createParentDirs_covers (outs done : List Bytes) :
    (∀ d ∈ done, d ∈ createParentDirs outs done) ∧ ∀ o ∈ outs, parentOf o ∈ createParentDirs outs done := by
  induction outs generalizing done with
  | nil => exact ⟨fun _ hd => hd, List.forall_mem_nil _⟩
  | cons o' os ih =>
    rw [createParentDirs]
    by_cases hc : done.contains (parentOf o') = true
    · rw [if_pos hc]
      obtain ⟨h1, h2⟩ := ih done
      exact ⟨h1, List.forall_mem_cons.mpr ⟨h1 _ (List.contains_iff_mem.mp hc), h2⟩⟩
    · rw [if_neg hc]
      obtain ⟨h1, h2⟩ := ih (done ++ [parentOf o'])
      exact ⟨fun d hd => h1 d (List.mem_append_left _ hd),
        List.forall_mem_cons.mpr ⟨h1 _ (List.mem_append_right _ (List.mem_singleton_self _)), h2⟩⟩

theorem splitSlash_length_pos (l cur : Bytes) : 0 < (splitSlash l cur).length := by
  induction l generalizing cur with
  | nil => exact Nat.one_pos
  | cons c r ih =>
    rw [splitSlash]
    by_cases hc : (c == SLASH) = true
    · rw [if_pos hc]; exact Nat.succ_pos _
    · rw [if_neg hc]; exact ih _

theorem joinSlash_splitSlash (l cur : Bytes) : joinSlash (splitSlash l cur) = cur ++ l := by
  induction l generalizing cur with
  | nil => exact (List.append_nil cur).symm
  | cons c r ih =>
    rw [splitSlash]
    by_cases hc : (c == SLASH) = true
    · rw [if_pos hc, of_decide_eq_true hc]
      have hpos := splitSlash_length_pos r []
      have hr := ih []
      cases hx : splitSlash r [] with
      | nil => rw [hx] at hpos; cases hpos
      | cons y ys =>
        rw [hx] at hr
        show cur ++ [SLASH] ++ joinSlash (y :: ys) = _
        rw [hr, List.nil_append, List.append_assoc]; rfl
    · rw [if_neg hc, ih, List.append_assoc]; rfl

theorem dirAndAncestors_self (d : Bytes) (hd : d ≠ []) :
    d ∈ dirAndAncestors d := by
  have hl := splitSlash_length_pos d []
  rw [dirAndAncestors, if_neg fun h => hd (List.isEmpty_iff.mp h)]
  refine List.mem_map.mpr ⟨(splitSlash d []).length - 1, List.mem_range.mpr (Nat.sub_lt hl Nat.one_pos), ?_⟩
  rw [Nat.sub_add_cancel hl, List.take_length]
  exact joinSlash_splitSlash d []

/-- **Every output's directory exists when the command starts**: the (non-empty) parent of every
    output is among the directories made before the command, for every list of outputs. -/
theorem output_dirs_exist (outs : List Bytes) (o : Bytes) (ho : o ∈ outs) (hne : parentOf o ≠ []) :
    parentOf o ∈ dirsBeforeCommand outs := by
  unfold dirsBeforeCommand
  simp only [List.mem_flatMap]
  exact ⟨parentOf o, (createParentDirs_covers outs []).2 o ho, dirAndAncestors_self _ hne⟩

/-- Non-vacuity and a concrete instance: `build sub/x.txt sub/deep/y.txt` — both `sub` and
    `sub/deep` exist (the shape a prefix-based "already made" shortcut gets wrong). -/
example : dirsBeforeCommand [[115,117,98,47,120], [115,117,98,47,100,101,101,112,47,121]]
    = [[115,117,98], [115,117,98], [115,117,98,47,100,101,101,112]] := by decide

/-- The same along a whole invocation in which earlier commands removed directory trees: the
    directories are made again before EVERY command, so whatever existed or was removed before,
    the parent of each of a step's outputs exists when that step's command starts. -/
theorem output_dirs_exist_every_step (steps : List (List Bytes × Option Bytes)) (existing : List Bytes)
    (i : Nat) (outs : List Bytes) (rm : Option Bytes) (hi : steps[i]? = some (outs, rm))
    (o : Bytes) (ho : o ∈ outs) (hne : parentOf o ≠ []) :
    ∃ atStart, (chainDirs steps existing)[i]? = some atStart ∧ parentOf o ∈ atStart := by
  induction steps generalizing existing i with
  | nil => cases hi
  | cons st rest ih =>
    obtain ⟨outs0, rm0⟩ := st
    cases i with
    | zero =>
      rw [List.getElem?_cons_zero] at hi
      cases hi
      exact ⟨(existing ++ dirsBeforeCommand outs).eraseDups, rfl,
        List.mem_eraseDups.mpr (List.mem_append_right _ (output_dirs_exist outs o ho hne))⟩
    | succ j =>
      rw [List.getElem?_cons_succ] at hi
      exact ih _ j hi

end N2V.C16
