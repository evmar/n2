/-
  C08 at the level of histories: which record of an arbitrary log a step of the CURRENT manifest
  gets at start-up.
-/
import N2V.Props.C09
namespace N2V.C08
open N2V N2V.Work N2V.Load

/-- `lastRec` picks the LAST record attributed to the step. -/
theorem lastRec_spec (g : GraphM) (b : Nat) (rs : List Rec) : ∀ (acc : Option Rec) (r : Rec),
    lastRec g b rs acc = some r →
    (∃ pre post, rs = pre ++ r :: post ∧ Db.attributeRec (producerByName g) r.outs = some b ∧
        ∀ r' ∈ post, Db.attributeRec (producerByName g) r'.outs ≠ some b) ∨
    (acc = some r ∧ ∀ r' ∈ rs, Db.attributeRec (producerByName g) r'.outs ≠ some b) := by
  intro acc
  fun_induction lastRec g b rs acc with
  | case1 acc => exact fun r h => Or.inr ⟨h, nofun⟩
  | case2 r0 rs acc hatt ih =>
    intro r h
    rcases ih r h with ⟨pre, post, h1, h2, h3⟩ | ⟨h1, h2⟩
    · exact Or.inl ⟨r0 :: pre, post, by rw [h1]; rfl, h2, h3⟩
    · cases h1
      exact Or.inl ⟨[], rs, rfl, hatt, h2⟩
  | case3 r0 rs acc hatt ih =>
    intro r h
    rcases ih r h with ⟨pre, post, h1, h2, h3⟩ | ⟨h1, h2⟩
    · exact Or.inl ⟨r0 :: pre, post, by rw [h1]; rfl, h2, h3⟩
    · exact Or.inr ⟨h1, List.forall_mem_cons.mpr ⟨hatt, h2⟩⟩

/-- **Records follow steps by output name, across any manifest edits.**  Whatever manifests and
    invocations wrote the log: at start-up a step `b` of the CURRENT manifest is given the
    dependency list and signature of the record `r` that is the LAST one in the log all of whose
    outputs (at least one) are produced by `b` in the current manifest - no matter what index the
    step had, which other steps existed, or in which order things were written.  A later record
    with an output that `b` does not produce now (moved to another step, dropped from the manifest)
    does not count, and neither does it shadow `r`. -/
theorem record_follows_its_outputs (w : World) (m : Bytes) (l : Loader) (e : Env)
    (h : loadEnv w m = .ok (l, e)) (b : Nat) (r : Rec) (hr : lastRec l.graph b w.log none = some r) :
    (∃ pre post, w.log = pre ++ r :: post ∧
      (r.outs ≠ [] ∧ ∀ o ∈ r.outs, producerByName l.graph o = some b) ∧
      ∀ r' ∈ post, ¬ (r'.outs ≠ [] ∧ ∀ o ∈ r'.outs, producerByName l.graph o = some b)) ∧
    (discOf e b).map (fileName e.g) = r.deps ∧ assocGet e.hashes b = some r.hash := by
  obtain ⟨h1, h2, _, _⟩ := C09.remembered_by_every_later_invocation w m l e h b r hr
  refine ⟨?_, h1, h2⟩
  rcases lastRec_spec l.graph b w.log none r hr with ⟨pre, post, e1, e2, e3⟩ | ⟨e1, _⟩
  · refine ⟨pre, post, e1, attribution _ _ _ e2, ?_⟩
    intro r' hr' ⟨hne, hall⟩
    exact e3 r' hr' (attribution_complete _ _ _ (by simpa using hne) hall)
  · cases e1

end N2V.C08
