/-
  C06 — Every invocation terminates with a decision for every wanted step.
-/
import N2V.Lemmas.SchedExamples
import N2V.Lemmas.SchedTerm
import N2V.Lemmas.SchedCycle
import N2V.Model.Run
import N2V.Lemmas.LoadSched
import N2V.Lemmas.SchedWantTerm
import N2V.Lemmas.SchedComplete
import N2V.Lemmas.SchedAcyclic
import N2V.Lemmas.SchedReg
namespace N2V.C06
open N2V N2V.Sched

/-- A cycle (or any other error while collecting the wanted set) is reported before the run
    loop is entered: the invocation ends with that diagnostic, and the state it leaves has
    exactly the late (queued/running/done/failed) builds of a fresh `Work` — none: no command
    was started, no step of the cycle ran. -/
theorem want_error_runs_nothing {E : Type} (g : Graph) (a : Run.Args) (c : Choices E) (e : E) (m : String) (s1 : S)
    (h : want g (Run.fresh a) a.manifest = .err m s1) :
    Run.build g a c e = (s1, e, .err m) ∧ ∀ b, s1.st b ≠ .running ∧ s1.st b ≠ .done := by
  constructor
  · unfold Run.build; simp only [h]
  · intro b
    have e := (want_lateEq_err h).1 b
    have h0 : (Run.fresh a).st b = .unknown := rfl
    constructor
    · intro hr
      have := (e .running (Or.inr (Or.inl rfl))).mp hr
      rw [h0] at this; cases this
    · intro hr
      have := (e .done (Or.inr (Or.inr (Or.inl rfl)))).mp hr
      rw [h0] at this; cases this

/-- The cycle diagnostic has the documented shape. -/
theorem cycle_message_shape (g : Graph) (stack : List Nat) (id : Nat) :
    cycleMessage g stack id =
      "dependency cycle: " ++ " -> ".intercalate ((stack ++ [id]).map (fun f => stringOfBytes (g.fileName f))) := rfl

/-- A build never waits for its validation targets: the readiness test does not look at
    validation inputs at all. -/
theorem never_waits_for_validation (g g' : Graph) (s : S) (id : Nat)
    (hord : (g.build id).ordering = (g'.build id).ordering) (hprod : g.producer = g'.producer) :
    recheckReady g s id = recheckReady g' s id := by
  unfold recheckReady; rw [hord, hprod]

/-- The loops of `Work::run` are total: `start`/`ready` loops and the main loop always return
    (structural recursion on their fuel), and with no failure on record the only exits are
    success, an error, or the explicit BUG outcome — which the correspondence run checks is never
    observed (monitor `decided`). -/
theorem run_returns {E : Type} (g : Graph) (par : Nat) (c : Choices E) (s : S) (e : E) :
    ∃ out, run g par c s e = out := ⟨_, rfl⟩

/-- The want phase keeps a state inherited from the manifest-regeneration phase: steps already
    settled there stay settled. -/
theorem inherited_state_kept (g : Graph) (s s' : S) (f : Nat) (h : want g s f = .ok () s') (b : Nat)
    (hb : s.st b = .done) : s'.st b = .done :=
  ((want_lateEq h).1 b .done (Or.inr (Or.inr (Or.inl rfl)))).mpr hb

/-- **n2 never aborts with its internal error** (`BUG: no work to do and runner not running`):
    for every graph without a cycle of ordering edges (`Acyclic`: producers rank below consumers;
    validation edges are unconstrained) whose cross references are consistent (`DepsOK`, what
    `Graph::add_build` establishes), every `-j ≥ 1`, every argument vector and every behaviour of
    the environment — which steps are dirty, in which order commands finish, which fail, whether
    one is interrupted.  The proof carries, next to the scheduler invariant, the converse
    bookkeeping facts (`PInv`): a `Ready` build is in the ready queue, a `Queued` one in its pool's
    queue, a `Want` one has a producer that is not `Done`, producers of wanted builds are wanted,
    a `Failed` build was counted — through the want phase (with its re-entrant visits) and every
    step of `Work::run`; in the state where the panic would fire these leave only `Want` builds,
    each waiting for another, which acyclicity forbids. -/
theorem never_internal_error {E : Type} {g : Graph} (gok : GraphOK g) (dok : DepsOK g) (acyc : Acyclic g)
    (a : Run.Args) (hpar : 0 < a.par) (c : Choices E) (e : E) :
    (Run.build g a c e).2.2 ≠ .bug ∧ ∀ n0, (Run.buildReloaded g a c e n0).2.2 ≠ .bug :=
  ⟨Run.build_no_bug_free gok dok a hpar c e, fun n0 => Run.buildReloaded_no_bug_free gok dok a hpar c e n0⟩

/-- **Success means every wanted step is up to date**: when `run::build` reports success, every
    build is `Done` or was never wanted; nothing is left waiting, queued, running or failed. -/
theorem success_means_all_up_to_date {E : Type} {g : Graph} (gok : GraphOK g) (dok : DepsOK g)
    (acyc : Acyclic g) (a : Run.Args) (hpar : 0 < a.par) (c : Choices E) (e : E) (n : Nat)
    (h : (Run.build g a c e).2.2 = .done n) (b : Nat) :
    (Run.build g a c e).1.st b = .unknown ∨ (Run.build g a c e).1.st b = .done :=
  Run.build_done_settled_free gok dok a hpar c e n h b

/-- The situation the panic guards against, stated on its own: with the invariants, "something
    pending, nothing ready, nothing startable, nothing running, nothing failed" is contradictory. -/
theorem no_stall_state {g : Graph} {par : Nat} {s : S} (inv : Inv g par s) (pi : PInv g s) (acyc : Acyclic g)
    (hpar : 0 < par) (hpend : ¬ s.pending ≤ 0) (hready : s.ready = [])
    (hpop : ¬ s.running < par ∨ popQueued s.pools = none) (hrun : s.running ≤ 0)
    (htf : s.tasksFailed = 0) : False :=
  no_stall_reg inv pi (.of_global acyc s) hpar hpend hready hpop hrun htf

/-- The example graph `b <- c` satisfies the hypotheses (they are not vacuous). -/
example : DepsOK Ex.g0 ∧ Acyclic Ex.g0 := by
  refine ⟨⟨?_, ?_⟩, ⟨fun b => b, ?_⟩⟩
  · intro f p h
    unfold Ex.g0 at h ⊢
    simp only at h ⊢
    split at h
    · cases h; rename_i hf; subst hf; decide
    · split at h
      · cases h; rename_i hf; subst hf; decide
      · cases h
  · intro b f hf
    unfold Ex.g0 at hf ⊢
    simp only at hf ⊢
    split at hf
    · cases hf
    · split at hf
      · simp at hf; subst hf; rename_i hb; simp [hb]
      · cases hf
  · intro b f p hf hp
    unfold Ex.g0 at hf hp
    simp only at hf hp
    split at hf
    · cases hf
    · split at hf
      · simp at hf; subst hf
        simp at hp; subst hp
        rename_i hb0 hb; show (0 : Nat) < b; omega
      · cases hf

/-- **A reported dependency cycle is real**: when `Work::want_file` fails, the message is
    `dependency cycle: f0 -> f1 -> ... -> f0` over files each of which is an explicit, implicit or
    order-only input of the step producing its predecessor (`Linked`), and the list returns to its
    first file.  Validation inputs are visited with a fresh stack, so a cycle closed only by a
    validation edge is never reported (and, by `want_error_runs_nothing`, no step runs after a
    cycle error). -/
theorem cycle_diagnostic_sound (g : Graph) (s s' : S) (f : Nat) (m : String) (h : want g s f = .err m s') :
    ∃ (c : List Nat) (x : Nat), m = cycleMessage g c x ∧ c.head? = some x ∧ Linked g (c ++ [x]) :=
  want_cycle_sound g s s' f m h

/-- **`Work::run` terminates**: in both phases of `run::build` the loops end for a reason of their
    own — success, failure, interruption, an error, or the environment supplying no further
    completion — never because the model's fuel ran out (`6·(#builds+1)+2` rounds of the outer loop,
    `#builds+1` of the start and ready loops).  Every round of the outer loop that continues moves
    a build forward in Unknown < Want < Ready < Queued < Running < Done < Failed (`msum`, bounded by
    6 per build: `msum_le`); every start takes a build out of the Queued stock and every round of
    the ready loop one out of the Want/Ready stock.  (The want phase's own recursion is covered by
    `want_phase_terminates` below.) -/
theorem run_loops_terminate {E : Type} {g : Graph} (gok : GraphOK g) (a : Run.Args) (c : Choices E) (e : E) :
    (Run.build g a c e).2.2 ≠ .fuel ∧ ∀ n0, (Run.buildReloaded g a c e n0).2.2 ≠ .fuel :=
  ⟨Run.build_no_fuel gok a c e, fun n0 => Run.buildReloaded_no_fuel gok a c e n0⟩

/-- **The hypotheses about the graph hold of every graph an invocation schedules on**: whatever the
    file system and the log contain, the graph `load::read` returns (manifest, includes, then the log's
    recorded dependency names interned) has every producer id in range, every producer listing its
    file, and every step registered as a dependent of its ordering inputs — `GraphOK` and `DepsOK` as
    used by the scheduler theorems of C01/C04/C05/C06/C18/C19.  Acyclicity is the property's own
    premise (n2 reports a cycle instead). -/
theorem loaded_graph_meets_hypotheses (w : Work.World) (m : Bytes) (l : Load.Loader) (e0 : Work.Env)
    (h : Work.loadEnv w m = .ok (l, e0)) :
    GraphOK (Work.schedGraph e0.g) ∧ DepsOK (Work.schedGraph e0.g) :=
  (Work.loadEnv_graph_ok w m l e0 h).2

/-- Hence, for every world and every loadable manifest without ordering cycles, the whole
    invocation never ends in n2's internal-error state. -/
theorem never_internal_error_loaded (w : Work.World) (m : Bytes) (l : Load.Loader) (e0 : Work.Env)
    (h : Work.loadEnv w m = .ok (l, e0)) (acyc : Acyclic (Work.schedGraph e0.g))
    (a : Run.Args) (hpar : 0 < a.par) (c : Choices Work.Env) :
    (Run.build (Work.schedGraph e0.g) a c e0).2.2 ≠ .bug :=
  (never_internal_error (loaded_graph_meets_hypotheses w m l e0 h).1 (loaded_graph_meets_hypotheses w m l e0 h).2
    acyc a hpar c e0).1

/-- **The want phase terminates**: `Work::want_file` — the mutually recursive `want_file` /
    `want_build` with its loops over ordering and validation inputs, including re-entrant visits
    through validation edges and input lists of any length (repeated inputs included) — never
    runs out of the model's fuel `wantFuel g = (longest input list + 3)·(#builds+1)·(#files+1) + 2`,
    for every graph whose producers and inputs are in range, every state and every file; likewise
    the marking of command-line targets, `default`s, or every file.  Measure: (#builds still
    Unknown)·(#files+1) + #files not on the cycle stack; a producer edge pushes a file that is not
    on the stack, a validation edge is crossed only after its build left Unknown. -/
theorem want_phase_terminates (g : Graph) (gok : GraphOK g) (fok : FilesOK g) (s : S) :
    (∀ f, f < g.nFiles → FuelOK (want g s f)) ∧
    (∀ fs, (∀ f ∈ fs, f < g.nFiles) → FuelOK (Run.wantAll g s fs)) ∧
    (∀ a ns, FuelOK (Run.wantTargets g a s ns)) :=
  ⟨fun f hf => want_never_out_of_fuel g gok fok s f hf,
   fun fs hfs => Run.wantAll_fuelOK g gok fok fs hfs s,
   fun a ns => Run.wantTargets_fuelOK g gok fok a ns s⟩

/-- ... and its hypotheses hold of every graph an invocation schedules on. -/
theorem want_phase_terminates_loaded (w : Work.World) (m : Bytes) (l : Load.Loader) (e0 : Work.Env)
    (h : Work.loadEnv w m = .ok (l, e0)) (s : S) (f : Nat) (hf : f < (Work.schedGraph e0.g).nFiles) :
    FuelOK (want (Work.schedGraph e0.g) s f) :=
  want_never_out_of_fuel _ (Work.loadEnv_graph_ok w m l e0 h).2.1
    (Work.schedGraph_filesOK e0.g (Work.loadEnv_graph_ok w m l e0 h).1) s f hf

/-- Non-vacuity, and why `wantFuel` counts the longest input list: one step listing the same input
    40 times (`build out: cc a a a …`) is marked without running out of fuel. -/
def exRepeated : Graph :=
  { nBuilds := 1, nFiles := 2,
    build := fun _ => { ordering := List.replicate 40 1, validation := [], outs := [0], phony := false, pool := [] },
    producer := fun f => if f = 0 then some 0 else none,
    dependents := fun _ => [], fileName := fun _ => [] }

example : (match want exRepeated (init [] none) 0 with | .ok _ _ => true | _ => false) = true := by
  decide

/-- **A dependency cycle among the requested steps is always diagnosed** (completeness of the
    cycle check).  `want_build` marks a build only after its ordering inputs have been walked, so
    whenever `Work::want_file f` SUCCEEDS from a state in which nothing is marked yet, no build
    that `f` needs - through explicit, implicit, order-only or validation inputs - is its own
    ordering ancestor.  Contrapositive: if a step the target needs lies on a cycle of ordering
    edges, `want_file` does not succeed; it cannot run out of fuel (`want_phase_terminates`), so it
    returns the `dependency cycle:` error (`cycle_diagnostic_sound`: a real one), and then nothing
    runs (`want_error_runs_nothing`).  A cycle closed only by a validation edge is not an ordering
    cycle and is accepted. -/
theorem cycle_among_requested_steps_is_diagnosed (g : Graph) (s s' : S) (f : Nat) (hfresh : ∀ b, s.st b = .unknown)
    (h : want g s f = .ok () s') : ∀ b, Needs g f b → ¬ Anc g b b := by
  have hc0 : ClosedX g s [] := fun b _ hb => absurd (hfresh b) hb
  obtain ⟨_, hmarked⟩ := want_complete g s s' f hc0 h
  have hai := want_acyclic g s s' f (ai_of_unmarked g s hfresh) h
  intro b hn
  exact hai.acyc b (hmarked b hn)

/-- The same along a sequence of successful `want_file`s (several targets, defaults, every file):
    the invariant is kept from one call to the next. -/
theorem cycle_free_ground_is_kept (g : Graph) (s s' : S) (f : Nat) (hai : AI g s) (h : want g s f = .ok () s') :
    AI g s' := want_acyclic g s s' f hai h

/-- **No internal error on ANY graph** (the acyclicity hypothesis of `never_internal_error` is not
    needed): for every graph with consistent cross references - cyclic or not -, `-j ≥ 1` and every
    behaviour of the environment, `run::build` never ends in `BUG: no work to do and runner not
    running`.  If the requested steps contain an ordering cycle the want phase returns the cycle
    error and nothing runs; if it succeeds, the marked builds have a rank (`regAcyc_of_ai`: number
    of ordering ancestors) and `Work::run`, which never marks a new build, cannot stall. -/
theorem never_internal_error_on_any_graph {E : Type} {g : Graph} (gok : GraphOK g) (dok : DepsOK g)
    (a : Run.Args) (hpar : 0 < a.par) (c : Choices E) (e : E) : (Run.build g a c e).2.2 ≠ .bug :=
  Run.build_no_bug_free gok dok a hpar c e

/-- **Success means every wanted step is up to date, on any graph.** -/
theorem success_means_all_up_to_date_on_any_graph {E : Type} {g : Graph} (gok : GraphOK g) (dok : DepsOK g)
    (a : Run.Args) (hpar : 0 < a.par) (c : Choices E) (e : E) (n : Nat)
    (h : (Run.build g a c e).2.2 = .done n) (b : Nat) :
    (Run.build g a c e).1.st b = .unknown ∨ (Run.build g a c e).1.st b = .done :=
  Run.build_done_settled_free gok dok a hpar c e n h b

end N2V.C06
