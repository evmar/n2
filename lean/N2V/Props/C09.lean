/-
  C09 — Discovered dependencies are remembered, replaced wholesale, and never block.
-/
import N2V.Model.World
import N2V.Lemmas.Work
import N2V.Lemmas.SchedRun
import N2V.Lemmas.WorkDisc
import N2V.Lemmas.LoadInv
import N2V.Lemmas.WorldClean
namespace N2V.C09
open N2V N2V.Work N2V.Load

theorem assocGet_put {β} (m : List (Nat × β)) (k : Nat) (v : β) : assocGet (assocPut m k v) k = some v :=
  assocGet_put_self m k v

/-- What `record_finished` keeps of a report: no duplicates, nothing that is already a dirtying
    input, and only files that were reported. -/
theorem keepDeps_spec (dirtying : List Nat) (ns : List Bytes) (e : Env) (acc : List Nat)
    (hacc : acc.Nodup ∧ ∀ f ∈ acc, f ∉ dirtying) :
    (keepDeps e dirtying ns acc).2.Nodup ∧ ∀ f ∈ (keepDeps e dirtying ns acc).2, f ∉ dirtying := by
  refine keepDeps_induct (P := fun _ acc => acc.Nodup ∧ ∀ f ∈ acc, f ∉ dirtying) dirtying (fun _ _ _ h => h)
    (fun _ acc c h hna hnd => ⟨?_, ?_⟩) ns e acc hacc
  · -- the id is new to `acc`
    refine List.nodup_append.mpr ⟨h.1, List.nodup_cons.mpr ⟨List.not_mem_nil, List.nodup_nil⟩, fun a ha b hb => ?_⟩
    rw [List.mem_singleton.mp hb]
    exact fun e => hna (e ▸ ha)
  · intro f hf
    rcases List.mem_append.mp hf with hf | hf
    · exact h.2 f hf
    · rw [List.mem_singleton.mp hf]; exact hnd

/-- **Replaced wholesale**: after `record_finished` the step's discovered-dependency list is
    exactly what was kept of THIS report, whatever the list was before. -/
theorem replaced_wholesale (e : Env) (b : Nat) (bm : BuildM) (deps : Option (List Bytes))
    (hb : buildOf e.g b = some bm) :
    discOf (recordFinished e b deps) b = (keepDeps e bm.dirtying (deps.getD []) []).2 :=
  (recordFinished_spec e b bm hb deps).2.2.2.2.1

/-- The kept list has no duplicates and avoids the declared dirtying inputs (an order-only
    input may stay: it is not dirtying). -/
theorem recorded_deps_clean (e : Env) (b : Nat) (bm : BuildM) (deps : Option (List Bytes))
    (hb : buildOf e.g b = some bm) :
    (discOf (recordFinished e b deps) b).Nodup ∧ ∀ f ∈ discOf (recordFinished e b deps) b, f ∉ bm.dirtying := by
  rw [replaced_wholesale e b bm deps hb]
  exact keepDeps_spec bm.dirtying (deps.getD []) e [] ⟨by simp, by simp⟩

/-- **A vanished discovered dependency makes the step dirty, never an error**: the second
    `ensure_input_files` (over discovered inputs) has no error branch for a missing source. -/
theorem missing_dep_is_dirty_not_error (e : Env) (bm : BuildM) (b : Nat) (e1 e2 : Env) (f : Nat)
    (h1 : ensureInputs e bm.dirtying = .ok (none, e1))
    (h2 : ensureInputs e1 (discOf e1 b) = .ok (some f, e2)) :
    (filesMissing e bm b).2 = some true := by
  unfold filesMissing; rw [h1]; simp only; rw [h2]

/-- **Never block**: discovered dependencies are not part of the readiness test — the
    scheduler's graph has no field for them (`schedGraph` builds `ordering` from the declared
    explicit/implicit/order-only inputs only). -/
theorem no_ordering (g : GraphM) (b : Nat) (bm : BuildM) (hb : g.builds[b]? = some bm) :
    ((schedGraph g).build b).ordering = bm.ins.take (bm.explicit + bm.implicit + bm.orderOnly) :=
  sg_ordering g b bm hb

/-- **Remembered in all later invocations.**  For EVERY tree and log (whatever earlier
    invocations, manifests and crashes produced it): after start-up, the discovered-dependency list
    of a step is, name by name and in order, the dependency list of the LATEST record the log
    attributes to the step, and the signature it will be compared with is that record's.  Start-up
    changes neither the tree nor the steps of the manifest (it only interns source files). -/
theorem remembered_by_every_later_invocation (w : World) (m : Bytes) (l : Loader) (e : Env)
    (h : loadEnv w m = .ok (l, e)) (b : Nat) (r : Rec) (hr : lastRec l.graph b w.log none = some r) :
    (discOf e b).map (fileName e.g) = r.deps ∧ assocGet e.hashes b = some r.hash ∧
    e.fs = w.fs ∧ e.g.builds = l.graph.builds := by
  obtain ⟨_, hx, hfs, _, _, _, hb⟩ := loadEnv_spec h
  obtain ⟨h1, _, h3⟩ := (hb b).1 r hr
  exact ⟨h1, h3, hfs, hx.builds⟩

/-- A step no record is attributed to starts with no remembered dependencies and no signature
    (so it is dirty): nothing is ever remembered from another step's record. -/
theorem nothing_remembered_without_record (w : World) (m : Bytes) (l : Loader) (e : Env)
    (h : loadEnv w m = .ok (l, e)) (b : Nat) (hr : lastRec l.graph b w.log none = none) :
    discOf e b = [] ∧ assocGet e.hashes b = none :=
  ((loadEnv_spec h).2.2.2.2.2.2 b).2 hr

/-- **…until that step next succeeds, when the new report replaces the old list entirely.**
    Whatever the log held before, once a record for the step's outputs is appended (that is what a
    success does: `recordFinished_record`) it is the one that counts, until a later record is
    attributed to the step — nothing of the older lists survives (`Remembers` is an equality). -/
theorem latest_success_wins (g : GraphM) (inv : GInv g) (b : Nat) (bm : BuildM) (hb : buildOf g b = some bm)
    (hne : bm.outs ≠ []) (before after : List Rec) (rec : Rec) (hrec : rec.outs = bm.outs.map (fileName g))
    (hafter : ∀ r ∈ after, Db.attributeRec (producerByName g) r.outs ≠ some b) :
    lastRec g b (before ++ [rec] ++ after) none = some rec := by
  rw [lastRec_append, lastRec_none_attributed g b after _ hafter, lastRec_append]
  have : Db.attributeRec (producerByName g) rec.outs = some b := by
    rw [hrec]; exact attributed_own g inv b bm hb hne
  rw [lastRec_step, if_pos this]
  rfl

/-- What a success writes: the outputs by name and the kept report by name (so the next
    start-up's list is exactly this report, `replaced_wholesale`), with a signature that stamps
    exactly those names. -/
theorem success_writes_its_report (e : Env) (b : Nat) (bm : BuildM) (hb : buildOf e.g b = some bm)
    (deps : Option (List Bytes)) :
    (recordFinished e b deps).log = e.log ∨
    ∃ rec, (recordFinished e b deps).log = e.log ++ [rec] ∧
      rec.outs = bm.outs.map (fileName (recordFinished e b deps).g) ∧
      rec.deps = (discOf (recordFinished e b deps) b).map (fileName (recordFinished e b deps).g) ∧
      rec.hash.disc.map (·.1) = rec.deps :=
  recordFinished_record e b bm hb deps

/-- **A remembered dependency is a dirtying input.**  At any point of any invocation whose cached
    stat() answers are truthful: if the step remembers record `r` and the `i`-th remembered name
    is missing now, or its modification time differs from the one stamped in `r`'s signature, the
    step is not found clean (it is dirty or, for a generated file without a path to it, an error). -/
theorem changed_dependency_is_dirty (e : Env) (hc : Coh e) (b : Nat) (bm : BuildM) (hb : buildOf e.g b = some bm)
    (hnp : bm.cmdline.isNone = false) (r : Rec) (hrem : Remembers e b r)
    (i : Nat) (n : Bytes) (t : Nat) (hn : r.deps[i]? = some n) (hs : r.hash.disc[i]? = some (n, t))
    (hchg : (e.fs.get n).map (·.mtime) ≠ some t) : (checkDirty e b).1 ≠ some false := by
  intro h
  obtain ⟨hp, hd⟩ := clean_means_deps_unchanged e hc b bm hb hnp r hrem h
  rw [hd, List.getElem?_map, hn] at hs
  simp only [Option.map_some, Option.some.injEq, Prod.mk.injEq, true_and] at hs
  have hpn := hp n (List.mem_of_getElem? hn)
  cases hx : e.fs.get n with
  | none => rw [hx] at hpn; cases hpn
  | some info =>
    rw [hx] at hs hchg
    simp only [Option.map_some, Option.getD_some] at hs hchg
    exact hchg (by rw [hs])

/-- **…but never an error**: once the declared inputs are in place, remembered dependencies that
    are source files (or were stat()ed already) cannot make the check fail — whatever became of
    them, the answer is "dirty" or "clean". -/
theorem remembered_sources_never_fail (e : Env) (bm : BuildM) (b : Nat) (e1 : Env)
    (h1 : ensureInputs e bm.dirtying = .ok (none, e1))
    (hsrc : ∀ f ∈ discOf e b, fileInput e.g f = none ∨ Cached e f) : (filesMissing e bm b).2 ≠ none := by
  obtain ⟨l1, rfl, _⟩ := ensureInputs_ok h1
  have s1 := statMany_same l1 e
  obtain ⟨r, e2, h2⟩ := ensureInputs_total (discOf (statMany e l1) b) (statMany e l1) (fun f hf => by
    rw [discOf_same s1] at hf
    rw [s1.g]
    exact (hsrc f hf).imp id (fun h => statMany_cached.mpr (Or.inr h)))
  unfold filesMissing
  rw [h1]
  simp only []
  rw [h2]
  cases r <;> simp

/-- Non-vacuity: a two-record log for `build out: cc in` — the later record's list (`h2`) is what
    start-up attaches, the earlier one (`h1`) is gone. -/
def exG : GraphM :=
  { files := [⟨[111], some 0, []⟩, ⟨[105], none, [0]⟩],
    builds := [{ loc := ⟨[], 1⟩, desc := none, cmdline := some [99], depfile := some [100], showIncludes := false, rspfile := none,
                 pool := none, ins := [1], explicit := 1, implicit := 0, orderOnly := 0, outs := [0], explicitOuts := 1,
                 hideSuccess := false, hideProgress := false }] }
def exHash (t : Nat) (d : Bytes) : Manifest := { ins := [([105], 1)], disc := [(d, t)], cmd := [99], rsp := none, outs := [([111], 2)] }
def exLog : List Rec := [⟨[[111]], [[104, 49]], exHash 1 [104, 49]⟩, ⟨[[111]], [[104, 50]], exHash 1 [104, 50]⟩]
def exE0 : Env := { g := exG, disc := [], hashes := [], cache := [], fs := [], clock := 0, log := exLog }

example : lastRec exG 0 exLog none = some ⟨[[111]], [[104, 50]], exHash 1 [104, 50]⟩ := by decide
example : (discOf (applyLog exE0 exLog) 0).map (fileName (applyLog exE0 exLog).g) = [[104, 50]] := by decide

end N2V.C09
