/-
  C01 — A command starts only after everything it depends on has finished.
-/
import N2V.Lemmas.SchedExamples
namespace N2V.C01
open N2V N2V.Sched

/-- The gate: `recheck_ready` lets a build through only if the producer of every explicit,
    implicit and order-only input is Done. -/
theorem gate_sound (g : Graph) (s : S) (id : Nat) (h : recheckReady g s id = true) :
    ∀ f ∈ (g.build id).ordering, ∀ p, g.producer f = some p → s.st p = .done :=
  recheckReady_iff.mp h

/-- Everything `ready_dependents` promotes has passed that gate. -/
theorem promoted_are_gated (g : Graph) (s : S) (id d : Nat) (perm : List Nat)
    (h : d ∈ orderBy perm (promotable g s id)) :
    s.st d = .want ∧ ∀ f ∈ (g.build d).ordering, ∀ p, g.producer f = some p → s.st p = .done := by
  obtain ⟨hw, hr⟩ := promoted_spec h
  exact ⟨hw, recheckReady_iff.mp hr⟩

/-- Invariant step: if every build past the gate (Ready/Queued/Running/Done/Failed) has all
    its ordering producers Done, the same holds after any transition that (i) does not leave
    Done and (ii) moves a build past the gate only when its own producers are Done. -/
theorem gating_step {g : Graph} {par : Nat} {s s' : S} {bid : Nat} {new : St}
    (inv : Inv g par s) (h : set g s bid new = .ok s')
    (hprev : s.st bid ≠ .done)
    (hready : s.st bid = .ready → bid ∉ s.ready)
    (hqueued : s.st bid = .queued → ∀ p ∈ s.pools, bid ∉ p.queued)
    (hord : gated new → ∀ f ∈ (g.build bid).ordering, ∀ p, g.producer f = some p → s.st p = .done) :
    ∀ b, gated (s'.st b) → ∀ f ∈ (g.build b).ordering, ∀ p, g.producer f = some p → s'.st p = .done :=
  set_ordered inv.toInvCore h hprev hord

/-- Readiness is a function of the ordering inputs only: validation edges and discovered
    dependencies (which are not part of `ordering`) impose no ordering. -/
theorem validation_imposes_no_order (g g' : Graph) (s : S) (id : Nat)
    (hord : (g.build id).ordering = (g'.build id).ordering) (hprod : g.producer = g'.producer) :
    recheckReady g s id = recheckReady g' s id := by
  unfold recheckReady; rw [hord, hprod]

/-- Collecting the wanted set (also for the second phase of an invocation) never resets a
    running or finished build, so nothing that ran can be queued again within one `Work`. -/
theorem want_never_restarts (g : Graph) (s s' : S) (f : Nat) (h : want g s f = .ok () s') (b : Nat) :
    (s'.st b = .running ↔ s.st b = .running) ∧ (s'.st b = .done ↔ s.st b = .done) ∧
    (s'.st b = .failed ↔ s.st b = .failed) ∧ (s'.st b = .queued ↔ s.st b = .queued) :=
  let e := (want_lateEq h).1
  ⟨e b _ (Or.inr (Or.inl rfl)), e b _ (Or.inr (Or.inr (Or.inl rfl))),
   e b _ (Or.inr (Or.inr (Or.inr rfl))), e b _ (Or.inl rfl)⟩

/-! `Run.build_tinv`: every trace the model of `run::build` can produce satisfies `okTrace`
(TraceSpec.lean), for every graph, argument vector, environment behaviour and outcome.  The
statements below follow from `okTrace` alone (Lemmas/TraceFacts), so they also hold of every trace
recorded from the real n2 on which the `traceSpec` monitor evaluates to true. -/

/-- **C01 for every invocation**: whenever a command starts — at any point of any `run::build`,
    whatever happens afterwards — every step that transitively produces one of its explicit,
    implicit or order-only inputs is `Done` (ran successfully in this invocation or was judged up
    to date), and the step was not started before in this `Work`. -/
theorem starts_after_deps_and_once {E : Type} {g : Graph} (gok : GraphOK g) (a : Run.Args) (c : Choices E)
    (e : E) (b : Nat) (tr' : List Ev) (hs : (.start b :: tr') <:+ (Run.build g a c e).1.trace) :
    (∀ p, Anc g b p → stOf tr' p = .done) ∧ startedSince tr' b = false :=
  start_deps_and_once (Run.build_tinv gok a c e).ok hs

/-- The same for the part of an invocation that follows a manifest reload. -/
theorem starts_after_deps_and_once_reloaded {E : Type} {g : Graph} (gok : GraphOK g) (a : Run.Args)
    (c : Choices E) (e : E) (n0 b : Nat) (tr' : List Ev)
    (hs : (.start b :: tr') <:+ (Run.buildReloaded g a c e n0).1.trace) :
    (∀ p, Anc g b p → stOf tr' p = .done) ∧ startedSince tr' b = false :=
  start_deps_and_once (Run.buildReloaded_tinv gok a c e n0).ok hs

/-- Validation inputs are not ancestors: `Anc` is built from `ordering` only, and the trace
    specification never looks at `validation`. -/
theorem anc_ignores_validation (g g' : Graph) (h : ∀ b, (g.build b).ordering = (g'.build b).ordering)
    (hp : g.producer = g'.producer) {b p : Nat} (ha : Anc g b p) : Anc g' b p := by
  induction ha with
  | direct hf hpr => exact .direct (by rw [← h]; exact hf) (by rw [← hp]; exact hpr)
  | step _ _ ih1 ih2 => exact .step ih1 ih2

/-- Non-vacuity: in the run of `build b: r; build c: r b` the second command does start, and `b`'s
    step is an ancestor of `c`'s. -/
example : startedSince (Run.build Ex.g0 Ex.a0 Ex.c0 ()).1.trace 1 = true := by decide
example : Anc Ex.g0 1 0 := .direct (f := 1) (by decide) (by decide)

end N2V.C01
