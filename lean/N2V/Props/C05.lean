/-
  C05 — Failures are contained, budgeted by -k, and reflected in the exit status.
-/
import N2V.Lemmas.SchedExamples
import N2V.Model.Run
import N2V.Lemmas.WorldSettledD
import N2V.Lemmas.SchedDone2
namespace N2V.C05
open N2V N2V.Sched

/-- `Work::run` returns success only if no command failed and nothing is left pending. -/
theorem run_success_means_clean {E : Type} (g : Graph) (par : Nat) (c : Choices E) (fuel : Nat) (s : S) (e : E)
    (perms : List (List Nat)) (fin : List (Nat × Term))
    (h : (runLoop g par c fuel s e perms fin).result = .ok true) :
    (runLoop g par c fuel s e perms fin).s.tasksFailed = 0 ∧ (runLoop g par c fuel s e perms fin).s.pending ≤ 0 := by
  obtain ⟨s', e', -, he⟩ := runLoop_spec (g := g) (par := par) (c := c) fuel s e perms fin
  rw [h] at he
  obtain ⟨hs, -, hp, hf⟩ := he.ok_true
  rw [hs]
  exact ⟨hf, hp⟩

/-- With the invariant, "nothing pending" means every build is Unknown (not wanted), Done or
    Failed: success is reported only when every wanted step was settled. -/
theorem nothing_pending_means_settled {g : Graph} {par : Nat} {s : S} (inv : Inv g par s)
    (hp : s.pending ≤ 0) (b : Nat) (hb : b < g.nBuilds) : ¬ active (s.st b) = true := by
  have h0 : cnt g.nBuilds (fun b => active (s.st b)) = 0 := by
    have := inv.pending; omega
  simpa using cnt_eq_zero_iff.mp h0 b hb

/-- A failed build is a dead end for its dependents: the gate demands Done. -/
theorem failed_blocks_dependents (g : Graph) (s : S) (d f p : Nat)
    (hf : f ∈ (g.build d).ordering) (hp : g.producer f = some p) (hfail : s.st p = .failed) :
    recheckReady g s d = false := by
  cases h : recheckReady g s d with
  | false => rfl
  | true =>
    have := recheckReady_iff.mp h f hf p hp
    rw [hfail] at this; cases this

/-- The want phase of the second part of an invocation cannot turn a Failed build back. -/
theorem failed_is_final_in_want (g : Graph) (s s' : S) (f : Nat) (h : want g s f = .ok () s') (b : Nat)
    (hb : s.st b = .failed) : s'.st b = .failed :=
  ((want_lateEq h).1 b .failed (Or.inr (Or.inr (Or.inr rfl)))).mpr hb

/-! The trace-level statements are obtained as in Props/C01. -/

/-- **Failures are contained, in every invocation**: once a step has `Failed`, no step that
    transitively needs one of its outputs is started at any later point of the same `Work` —
    whatever the environment does and however the invocation ends. -/
theorem failure_contained {E : Type} {g : Graph} (gok : GraphOK g) (a : Run.Args) (c : Choices E) (e : E)
    (b p : Nat) (tr1 tr2 : List Ev)
    (hs : (.start b :: (tr2 ++ tr1)) <:+ (Run.build g a c e).1.trace) (hl : Ev.load ∉ tr2)
    (hfail : stOf tr1 p = .failed) (ha : Anc g b p) : False :=
  no_start_after_failure (okTrace_suffix (Run.build_tinv gok a c e).ok hs) hl hfail ha

theorem failure_contained_reloaded {E : Type} {g : Graph} (gok : GraphOK g) (a : Run.Args) (c : Choices E)
    (e : E) (n0 b p : Nat) (tr1 tr2 : List Ev)
    (hs : (.start b :: (tr2 ++ tr1)) <:+ (Run.buildReloaded g a c e n0).1.trace) (hl : Ev.load ∉ tr2)
    (hfail : stOf tr1 p = .failed) (ha : Anc g b p) : False :=
  no_start_after_failure (okTrace_suffix (Run.buildReloaded_tinv gok a c e n0).ok hs) hl hfail ha

/-- A command that is reported finished was running; a failed one never becomes anything else
    (`legal`: nothing leaves `Failed`). -/
theorem failed_is_final {E : Type} {g : Graph} (gok : GraphOK g) (a : Run.Args) (c : Choices E) (e : E)
    (tr1 tr2 : List Ev) (hs : (tr2 ++ tr1) <:+ (Run.build g a c e).1.trace) (hl : Ev.load ∉ tr2)
    (b : Nat) (hb : stOf tr1 b = .failed) : stOf (tr2 ++ tr1) b = .failed :=
  finished_monotone (okTrace_suffix (Run.build_tinv gok a c e).ok hs) hl b .failed (Or.inr rfl) hb

/-- Non-vacuity: in the example where the first command fails, the dependent step never starts
    and the invocation reports failure. -/
example : startedSince (Run.build Ex.g0 Ex.a1 Ex.c1 ()).1.trace 1 = false ∧
    stOf (Run.build Ex.g0 Ex.a1 Ex.c1 ()).1.trace 0 = .failed ∧
    (Run.build Ex.g0 Ex.a1 Ex.c1 ()).2.2 = .failed := by decide
/-- With the default budget (`-k 1`) the first failure ends the invocation at once. -/
example : (Run.build Ex.g0 Ex.a0 Ex.c1 ()).2.2 = .failed ∧
    startedSince (Run.build Ex.g0 Ex.a0 Ex.c1 ()).1.trace 1 = false := by decide

/-- **The `-k` budget, in every invocation** (for `-k N`, N ≥ 1, or no limit): whenever a command
    starts, fewer than N commands have failed so far in this `Work` and none was interrupted. -/
theorem budget_respected {E : Type} {g : Graph} (gok : GraphOK g) (a : Run.Args) (hk : a.failuresLeft ≠ some 0)
    (c : Choices E) (e : E) (b : Nat) (tr' : List Ev) (hs : (.start b :: tr') <:+ (Run.build g a c e).1.trace) :
    budgetOk a.failuresLeft (sf tr') = true := by
  have h := (Run.build_acct gok a hk c e).1
  have := sf_suffix hs
  rw [sf_start] at this
  exact bT_start_suffix h this

theorem budgetOk_spelled (k0 : Nat) (tr : List Ev) (h : budgetOk (some k0) tr = true) :
    fails tr < k0 ∧ intr tr = false := by
  simp only [budgetOk, Bool.and_eq_true, decide_eq_true_eq, Bool.not_eq_true'] at h
  exact h


/-- **Exit status**: `run::build` reports success (`ran N tasks`, exit 0) only when no command
    failed or was interrupted in this `Work`. -/
theorem success_means_no_failure {E : Type} {g : Graph} (gok : GraphOK g) (a : Run.Args)
    (hk : a.failuresLeft ≠ some 0) (c : Choices E) (e : E) (n : Nat) (h : (Run.build g a c e).2.2 = .done n) :
    fails (sf (Run.build g a c e).1.trace) = 0 ∧ intr (sf (Run.build g a c e).1.trace) = false :=
  ((Run.build_acct gok a hk c e).2.1 n h).2

example : budgetTrace Ex.a0.failuresLeft (Run.build Ex.g0 Ex.a0 Ex.c1 ()).1.trace = true ∧
    fails (sf (Run.build Ex.g0 Ex.a0 Ex.c1 ()).1.trace) = 1 := by decide

/-- **A failed or interrupted command is never recorded as up to date.**  In any invocation that
    ends in success or in an ordinary failure (no reload; no input-rewriting commands; remembered
    dependencies of finished steps are source files): every record the invocation appended to the
    build log carries the outputs of a step that is `Done` at the end - so no record was written
    for a step that is `Failed` (or still running / waiting) when the invocation stops, and the
    next start-up attaches nothing new to such a step. -/
theorem failed_command_is_never_recorded (w : Work.World) (m : Bytes) (l : Load.Loader) (e0 : Work.Env)
    (hl : Work.loadEnv w m = .ok (l, e0)) (plain : Work.PlainD e0.g)
    (a : Run.Args) (adopt : Bool) (perms : List (List Nat)) (fin : List (Nat × Term))
    (h : (∃ n, (Run.build (Work.schedGraph e0.g) a (Work.choices adopt perms fin) e0).2.2 = .done n) ∨
         (Run.build (Work.schedGraph e0.g) a (Work.choices adopt perms fin) e0).2.2 = .failed)
    (hsrc : Work.GoodD (Run.build (Work.schedGraph e0.g) a (Work.choices adopt perms fin) e0).1
              (Run.build (Work.schedGraph e0.g) a (Work.choices adopt perms fin) e0).2.1)
    (b : Nat) (hb : (Run.build (Work.schedGraph e0.g) a (Work.choices adopt perms fin) e0).1.st b ≠ .done) :
    ∀ r ∈ Work.newLog e0 (Run.build (Work.schedGraph e0.g) a (Work.choices adopt perms fin) e0).2.1,
      Db.attributeRec (Work.producerByName e0.g) r.outs ≠ some b :=
  Work.newRecs_unattributed (Work.loadEnv_graph_ok w m l e0 hl).1
    (Work.build_jd w m l e0 hl plain a adopt perms fin h hsrc).newRecs b hb

end N2V.C05
