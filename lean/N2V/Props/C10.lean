/-
  C10 — Manifest syntax is read into exactly the declared graph.
-/
import N2V.Lemmas.Parse
import N2V.Lemmas.EvalSpec
import N2V.Lemmas.StmtSpec
import N2V.Lemmas.FileSpec
import N2V.Lemmas.Eval
import N2V.Model.Load
namespace N2V.C10
open N2V N2V.Scanner N2V.Eval N2V.Parse N2V.Load

/-- **Sections.**  Whatever sections a `build` line has (all 2^4 emptiness patterns of
    explicit | implicit || order-only |@ validation, and explicit | implicit outputs), the
    counts recorded for it partition its path lists in the declared order. -/
theorem sections (s s' : Scanner) (st : Stmt) (h : readBuild s = .ok st s') :
    ∃ b, st = .build b ∧
      b.explicitIns + b.implicitIns + b.orderOnlyIns + b.validationIns = b.ins.length ∧
      b.explicitOuts ≤ b.outs.length := readBuild_post s st s' h

/-- Reading more paths never disturbs the ones already read: each section is appended after
    the previous ones. -/
theorem paths_append_only (acc r : List EvalStr) (s s' : Scanner)
    (h : readPathsTo acc s = .ok r s') : ∃ ext, r = acc ++ ext := readPathsTo_ext acc s r s' h

/-- The loader keeps every path in its declared role and order: the graph's build carries the
    parser's counts unchanged and one file id per declared path (before de-duplication of
    repeated outputs). -/
theorem evalPaths_length (l l' : Loader) (envs : List Env) (ps : List EvalStr) (ids : List Nat)
    (h : evalPaths l envs ps = .ok (l', ids)) : ids.length = ps.length := by
  induction ps generalizing l ids with
  | nil => simp [evalPaths] at h; simp [h.2.symm]
  | cons p ps ih =>
    unfold evalPaths at h
    split at h
    · cases h
    · split at h
      · cases h
      · rename_i l1 i _ l2 is h2
        cases h
        simp [ih _ _ h2]

/-- `$var` and `${var}` are the same reference, and `$ `, `$:`, `$$` are the literal characters:
    the parsed parts do not record which spelling was used, so nothing downstream can depend on
    it.  (Statement about the result type: `Part` has exactly the two constructors.) -/
theorem spelling_not_recorded (p : Part) : (∃ b, p = .lit b) ∨ (∃ n, p = .var n) := by
  cases p with
  | lit b => exact Or.inl ⟨b, rfl⟩
  | var n => exact Or.inr ⟨n, rfl⟩

/-- Adjacent literal parts (which is what `$`-newline continuations and escapes leave behind)
    evaluate like their concatenation: splitting a literal does not change any expansion. -/
theorem split_literal_same (envs : List Env) (a b : Bytes) :
    evaluate envs [.lit a, .lit b] = evaluate envs [.lit (a ++ b)] := by
  simp [evaluate_lit_cons]

theorem empty_literal_neutral (envs : List Env) (pre post : EvalStr) :
    evaluate envs (pre ++ [.lit []] ++ post) = evaluate envs (pre ++ post) := by
  simp [evaluate_append, evaluate_lit_cons]

/-- **Values are read as written**: for text made of literal runs, `$var` / `${var}` references,
    the escapes `$ ` `$$` `$:` and `$`-newline continuations followed by any indentation — up to
    the newline, or the space / `:` / `|` that ends a path on a `build` line — `read_eval`
    returns exactly the corresponding parts (`textParts`) and stops at the terminator. -/
theorem values_read_as_written (buf : Array UInt8) (sep : Bool) (segs : List Seg) (last : Bytes) (t : UInt8)
    (r : Bytes) (hwf : SegsWF sep segs (last ++ t :: r)) (hlast : ∀ c ∈ last, plain sep c) (ht : stops sep t)
    (hne : textParts segs last ≠ []) (s : Scanner) (g : Depfile.G buf s)
    (hr : Rest buf s.ofs (segsBytes segs ++ last ++ t :: r)) :
    ∃ s', readEval sep s = .ok (textParts segs last) s' ∧ Depfile.G buf s' ∧ Rest buf s'.ofs (t :: r) :=
  readEval_spec buf sep segs last t r hwf hlast ht hne s g hr

/-- **`$var` versus `${var}`** (and which terminator or following text): two texts whose segments
    agree up to the spelling of their references are read as the same value. -/
theorem var_spelling_independent (buf buf' : Array UInt8) (sep : Bool) (segs segs' : List Seg) (last : Bytes)
    (t t' : UInt8) (r r' : Bytes)
    (hsame : segs.map (fun sg => (sg.1, escPart sg.2)) = segs'.map (fun sg => (sg.1, escPart sg.2)))
    (hwf : SegsWF sep segs (last ++ t :: r)) (hwf' : SegsWF sep segs' (last ++ t' :: r'))
    (hlast : ∀ c ∈ last, plain sep c) (ht : stops sep t) (ht' : stops sep t')
    (hne : textParts segs last ≠ []) (s s' : Scanner) (g : Depfile.G buf s) (g' : Depfile.G buf' s')
    (hr : Rest buf s.ofs (segsBytes segs ++ last ++ t :: r))
    (hr' : Rest buf' s'.ofs (segsBytes segs' ++ last ++ t' :: r')) :
    ∃ v s1 s1', readEval sep s = .ok v s1 ∧ readEval sep s' = .ok v s1' :=
  readEval_brace_independent buf buf' sep segs segs' last t t' r r' hsame hwf hwf' hlast ht ht' hne s s' g g' hr hr'

/-- The two spellings of a reference denote the same part. -/
theorem brace_spelling_same_part (n : Bytes) : escPart (.simple n) = escPart (.braced n) := rfl

/-- **Placement of line continuations**: a `$`-newline (with any indentation after it) inside a
    literal leaves `lit a, lit [], lit b`, which evaluates like the unbroken literal. -/
theorem continuation_placement (envs : List Env) (pre post : EvalStr) (a b : Bytes) (k : Nat) :
    evaluate envs (pre ++ [.lit a, escPart (.cont k), .lit b] ++ post) = evaluate envs (pre ++ [.lit (a ++ b)] ++ post) := by
  simp [evaluate_append, evaluate_lit_cons, escPart]

/-- Non-vacuity: `-o $out ${in}$ x` + newline, as segments. -/
example : segsBytes [([45, 111, 32], .simple [111, 117, 116]), ([32], .braced [105, 110]), ([], .ch 32)] ++ [120] ++ [10]
    = [45, 111, 32, 36, 111, 117, 116, 32, 36, 123, 105, 110, 125, 36, 32, 120, 10] := by decide
example : textParts [([45, 111, 32], .simple [111, 117, 116]), ([32], .braced [105, 110]), ([], .ch 32)] [120]
    = [.lit [45, 111, 32], .var [111, 117, 116], .lit [32], .var [105, 110], .lit [32], .lit [120]] := by decide

/-- **Every path in its declared role and order** (byte level).  A `build` statement written as
    explicit outputs, optional `| implicit outputs`, `:`, the rule name, explicit inputs, optional
    `| implicit`, `|| order-only`, `|@ validation` inputs and indented bindings — with any spacing
    (spaces and `$`-newline continuations) between the tokens — is read by `Parser::read` into exactly
    those lists, in that order, with the section counts equal to the section lengths, the bindings in
    written order (a repeated name overwrites), and the scanner left at the next statement. -/
theorem build_statement_read_as_written (buf : Array UInt8) (gs : List PGap) (hgs : gs ≠ []) (b : BuildText)
    (after : Bytes) (hwf : BuildWF b after) (hge : GapEnd (b.bytes after)) (fuel : Nat) (s : Scanner)
    (g : Depfile.G buf s) (hr : Rest buf s.ofs (kwBuild ++ (pgapBytes gs ++ b.bytes after))) :
    ∃ s' ln, readItem (fuel + 1) s = .ok (.stmt (.build
        { rule := b.rule, line := ln, outs := b.outsV, explicitOuts := (sectionValues b.eouts).length,
          ins := b.insV, explicitIns := (sectionValues b.eins).length, implicitIns := (optVals b.iins).length,
          orderOnlyIns := (optVals b.oins).length, validationIns := (optVals b.vins).length,
          vars := b.varsV })) s' ∧ Depfile.G buf s' ∧ Rest buf s'.ofs after :=
  readItem_build buf gs hgs b after hwf hge fuel s g hr

/-- The other statements are read as written too: top-level bindings, `rule` blocks, `default`,
    `include` / `subninja`; blank lines and comments before a statement are skipped. -/
theorem binding_read_as_written (buf : Array UInt8) (name : Bytes) (hne : name ≠ [])
    (hid : ∀ c ∈ name, isIdentChar c true = true)
    (hkw : name ∉ [kwRule, kwBuild, kwDefault, kwInclude, kwSubninja, kwPool])
    (v : ValueText) (r : Bytes) (hwf : ValueWF v r) (fuel : Nat) (s : Scanner) (g : Depfile.G buf s)
    (hr : Rest buf s.ofs (name ++ (valueBytes v ++ r))) :
    ∃ s', readItem (fuel + 1) s = .ok (.binding name (valueOf v)) s' ∧ Depfile.G buf s' ∧ Rest buf s'.ofs r :=
  readItem_binding buf name hne hid hkw v r hwf fuel s g hr

theorem rule_read_as_written (buf : Array UInt8) (gs : List PGap) (hgs : gs ≠ []) (name : Bytes) (hne : name ≠ [])
    (hid : ∀ c ∈ name, isIdentChar c true = true) (bs : List BindingText) (after : Bytes) (c0 : UInt8) (r0 : Bytes)
    (hafter : after = c0 :: r0) (hc0 : c0 ≠ SP) (hwf : BindingsWF isRuleVar bs after)
    (fuel : Nat) (s : Scanner) (g : Depfile.G buf s)
    (hr : Rest buf s.ofs (kwRule ++ (pgapBytes gs ++ (name ++ NL :: (bindingsBytes bs ++ after))))) :
    ∃ s', readItem (fuel + 1) s =
        .ok (.stmt (.rule name (bs.foldl (fun m b => Eval.insert m b.name (valueOf b.rhs)) []))) s' ∧
      Depfile.G buf s' ∧ Rest buf s'.ofs after :=
  readItem_rule buf gs hgs name hne hid bs after c0 r0 hafter hc0 hwf fuel s g hr

/-- A `pool` block: name and the depth its `depth` binding evaluates to (0 without one). -/
theorem pool_read_as_written (buf : Array UInt8) (gs : List PGap) (hgs : gs ≠ []) (name : Bytes) (hne : name ≠ [])
    (hid : ∀ c ∈ name, isIdentChar c true = true) (bs : List BindingText) (after : Bytes) (c0 : UInt8) (r0 : Bytes)
    (hafter : after = c0 :: r0) (hc0 : c0 ≠ SP) (hwf : BindingsWF (fun n => n == bytesOfString "depth") bs after)
    (d : Nat) (hd : poolDepth (bs.foldl (fun m b => Eval.insert m b.name (valueOf b.rhs)) []) = some d)
    (fuel : Nat) (s : Scanner) (g : Depfile.G buf s)
    (hr : Rest buf s.ofs (kwPool ++ (pgapBytes gs ++ (name ++ NL :: (bindingsBytes bs ++ after))))) :
    ∃ s', readItem (fuel + 1) s = .ok (.stmt (.pool name d)) s' ∧ Depfile.G buf s' ∧ Rest buf s'.ofs after :=
  readItem_pool buf gs hgs name hne hid bs after c0 r0 hafter hc0 hwf d hd fuel s g hr

theorem default_read_as_written (buf : Array UInt8) (gs : List PGap) (hgs : gs ≠ []) (ps : List (PathText × List PGap))
    (hps : ps ≠ []) (after : Bytes) (hwf : PathsWF ps (NL :: after)) (hge : GapEnd (pathsBytes ps ++ NL :: after))
    (fuel : Nat) (s : Scanner) (g : Depfile.G buf s)
    (hr : Rest buf s.ofs (kwDefault ++ (pgapBytes gs ++ (pathsBytes ps ++ NL :: after)))) :
    ∃ s', readItem (fuel + 1) s = .ok (.stmt (.default (ps.map (fun pg => pathValue pg.1)))) s' ∧
      Depfile.G buf s' ∧ Rest buf s'.ofs after :=
  readItem_default buf gs hgs ps hps after hwf hge fuel s g hr

theorem include_read_as_written (buf : Array UInt8) (sub : Bool) (gs : List PGap) (hgs : gs ≠ []) (t : PathText)
    (r : Bytes) (hwf : SegsWF false t.1 (t.2 ++ NL :: r)) (hlast : ∀ c ∈ t.2, plain false c) (hne : pathValue t ≠ [])
    (hge : GapEnd (pathBytes t ++ NL :: r)) (fuel : Nat) (s : Scanner) (g : Depfile.G buf s)
    (hr : Rest buf s.ofs ((if sub then kwSubninja else kwInclude) ++ (pgapBytes gs ++ (pathBytes t ++ NL :: r)))) :
    ∃ s', readItem (fuel + 1) s =
        .ok (.stmt (if sub then .subninja (pathValue t) else .include (pathValue t))) s' ∧
      Depfile.G buf s' ∧ Rest buf s'.ofs (NL :: r) :=
  readItem_include buf sub gs hgs t r hwf hlast hne hge fuel s g hr

theorem blank_and_comment_lines_skipped (buf : Array UInt8) (body x : Bytes)
    (hb : ∀ c ∈ body, c ≠ NUL ∧ c ≠ NL ∧ c ≠ CR) (fuel : Nat) (s : Scanner) (g : Depfile.G buf s) :
    (Rest buf s.ofs (NL :: x) → ∃ s1, Depfile.G buf s1 ∧ Rest buf s1.ofs x ∧ readItem (fuel + 1) s = readItem fuel s1) ∧
    (Rest buf s.ofs (HASH :: (body ++ NL :: x)) →
      ∃ s1, Depfile.G buf s1 ∧ Rest buf s1.ofs x ∧ readItem (fuel + 1) s = readItem fuel s1) :=
  ⟨fun hr => readItem_blank buf x fuel s g hr, fun hr => readItem_comment buf body x hb fuel s g hr⟩

/-- Non-vacuity: ` o: cc a | b || c` / `  x = 1` meets the well-formedness hypothesis. -/
example : BuildWF exBuild [NL] := exBuild_wf

/-- **The manifest file is read into exactly the declared statements, in order** (byte level, whole
    file).  If the text of the main manifest is a sequence of written
    statements - top-level bindings, `rule` and `pool` blocks, `build` statements with all their
    sections, `default`, `include` / `subninja` lines - each preceded by any number of blank lines and `#` comments, followed by
    trailing blank lines / comments (`Load.FileWF`: every statement meets the well-formedness its
    byte-level theorem asks for, in front of the text that follows it), then `load::read` returns
    exactly the fold of the statements' effects over the loader (`Load.applyItems`): rules and
    pools registered under their names, bindings evaluated top-down in the scope as of that line,
    every `build` statement added by `Graph::add_build` with its paths in the declared roles and
    order, `default` targets resolved, an `include` / `subninja` line handing the named file's content (read through
    `fs`) to the parser for nested files (`Load.parseFile`, to which `nested_file_read_as_written` applies again) -
    starting from the loader that knows only the manifest's own
    name.  (`lns`: the line numbers the `build` statements record; errors of `add_build` / of path
    evaluation propagate as in the loop.) -/
theorem manifest_read_as_written (inclExtends : Bool) (fs : Load.Fs) (main c content : Bytes)
    (hne : main.isEmpty = false) (hc : Canon.canon main = .ok c) (hfs : fs c = some content)
    (segs : List Load.FSeg) (tailNoise : List Load.Noise) (htn : ∀ n ∈ tailNoise, n.WF)
    (hwf : Load.FileWF segs (Load.noiseBytes tailNoise [NUL]))
    (htext : content ++ [NUL] = Load.fileBytes segs (Load.noiseBytes tailNoise [NUL])) :
    ∃ lns : List Nat, lns.length = segs.length ∧
      Load.loadWith inclExtends fs main =
        (Load.applyItems inclExtends fs 0 (Load.parseFile inclExtends fs (Load.MAX_INCLUDE_DEPTH + 1)) c
          (List.zipWith (fun (sg : Load.FSeg) ln => sg.2.item ln) segs lns)
          { graph := { files := [⟨c, none, []⟩] } } []).map (·.1) :=
  Load.load_as_written inclExtends fs main c content hne hc hfs segs tailNoise htn hwf htext

/-- The same for a nested file (what an `include` / `subninja` line hands over), at any depth and
    from any loader state and scope: so the file-level theorem applies to every file of a manifest
    tree in turn. -/
theorem nested_file_read_as_written (inclExtends : Bool) (fs : Load.Fs) (d : Nat) (l : Loader) (file content : Bytes)
    (vars : StrMap) (depth : Nat) (segs : List Load.FSeg) (tailNoise : List Load.Noise) (htn : ∀ n ∈ tailNoise, n.WF)
    (hwf : Load.FileWF segs (Load.noiseBytes tailNoise [NUL]))
    (htext : content ++ [NUL] = Load.fileBytes segs (Load.noiseBytes tailNoise [NUL])) :
    ∃ lns : List Nat, lns.length = segs.length ∧
      Load.parseFile inclExtends fs (d + 1) l file content vars depth =
        Load.applyItems inclExtends fs depth (Load.parseFile inclExtends fs d) file
          (List.zipWith (fun (sg : Load.FSeg) ln => sg.2.item ln) segs lns) l vars :=
  Load.parseFile_as_written inclExtends fs d l file content vars depth segs tailNoise htn hwf htext

end N2V.C10
