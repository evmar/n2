/-
  C17 — An out-of-date manifest is regenerated and reloaded before anything else.
-/
import N2V.Model.World
import N2V.Lemmas.SchedClosure
namespace N2V.C17
open N2V N2V.Sched

theorem ofRun_ne_reload (r : RunResult) (n : Nat) : Run.ofRun r ≠ .reload n :=
  Run.ofRun_ne_reload r n

theorem phase2_ne_reload {E : Type} (g : Graph) (a : Run.Args) (c : Choices E) (s2 : S) (e : E)
    (perms : List (List Nat)) (fin : List (Nat × Term)) (k n : Nat) :
    (Run.phase2 g a c s2 e perms fin k).2.2 ≠ .reload n := by
  rw [Run.phase2_eq]
  split
  · simp only []
    split
    · nofun
    · exact Run.ofRun_ne_reload _ n
  · nofun
  · nofun

/-- **Reload iff something ran**: `run::build` asks for a reload exactly when the manifest phase
    succeeded having run at least one command; the count it carries is that number. -/
theorem reload_means_ran {E : Type} (g : Graph) (a : Run.Args) (c : Choices E) (e : E) (n : Nat)
    (h : (Run.build g a c e).2.2 = .reload n) :
    n ≠ 0 ∧ (Run.build g a c e).1.tasksFailed = 0 ∧ (Run.build g a c e).1.pending ≤ 0 := by
  obtain ⟨s', e', -, hst⟩ := Run.build_runs g a c e
  obtain ⟨h1, -, hp, hf⟩ := hst.ok (.inr h)
  refine ⟨?_, by rw [h1]; exact hf, by rw [h1]; exact hp⟩
  generalize Run.build g a c e = r at h hst
  cases hst with
  | reload _ hn => cases h; exact hn
  | other => exact absurd h (Run.ofRun_ne_reload _ n)
  | _ => cases h

/-- **If regeneration fails nothing else runs**: when the manifest phase does not end in
    success, `run::build` returns right there — with the state of that phase and a result that
    is neither success nor a reload. -/
theorem regen_failure_stops {E : Type} (g : Graph) (a : Run.Args) (c : Choices E) (e : E) (s1 : S)
    (hw : want g (Run.fresh a) a.manifest = .ok () s1)
    (hr : (runLoop g a.par c (runFuel g) s1 e c.perms c.finishes).result ≠ .ok true) :
    (Run.build g a c e).1 = (runLoop g a.par c (runFuel g) s1 e c.perms c.finishes).s ∧
    (∀ n, (Run.build g a c e).2.2 ≠ .done n) ∧ (∀ n, (Run.build g a c e).2.2 ≠ .reload n) := by
  unfold Run.build
  -- `simp` selects the fall-through alternative of the match on the result, using `hr`
  simp only [hw]
  exact ⟨trivial, Run.ofRun_ne_done _, Run.ofRun_ne_reload _⟩

/-- **After a reload the new text decides**: the second part of the invocation is a function of
    the reloaded graph and arguments only — a fresh `Work` (`Run.fresh`), no state of the first
    one except the task count. -/
theorem reloaded_uses_new_graph_only {E : Type} (g2 : Graph) (a2 : Run.Args) (c : Choices E) (e : E) (n : Nat) :
    Run.buildReloaded g2 a2 c e n = Run.phase2 g2 a2 c (Run.fresh a2) e c.perms c.finishes n := rfl

/-- **Up-to-date manifest: results are reused**: when the manifest phase ran nothing, phase 2
    continues on the SAME scheduler state, so whatever was settled (Done) stays settled (with
    C01/C06 `want_never_restarts`) and the generator is not started. -/
theorem uptodate_continues {E : Type} (g : Graph) (a : Run.Args) (c : Choices E) (e : E) (s1 : S)
    (hw : want g (Run.fresh a) a.manifest = .ok () s1)
    (hr : (runLoop g a.par c (runFuel g) s1 e c.perms c.finishes).result = .ok true)
    (h0 : (runLoop g a.par c (runFuel g) s1 e c.perms c.finishes).s.tasksRun = 0) :
    Run.build g a c e =
      let r1 := runLoop g a.par c (runFuel g) s1 e c.perms c.finishes
      Run.phase2 g a c r1.s r1.e r1.perms r1.finishes 0 := by
  unfold Run.build
  simp only [hw, hr, h0, ne_eq, not_true_eq_false, if_false]

/-- **The manifest first, and nothing but what it needs**: when `run::build` asks for a reload, the only builds that ever
    left `Unknown` (were considered at all) are those the manifest needs.  No command-line target,
    default or other output has been looked at yet.  (For a failed manifest phase the same follows
    from `regen_failure_stops` and `want_touch_ok`.) -/
theorem manifest_phase_considers_only_the_manifest {E : Type} {g : Graph} (gok : GraphOK g) (a : Run.Args)
    (c : Choices E) (e : E) (n : Nat) (hn : (Run.build g a c e).2.2 = .reload n)
    (b : Nat) (hb : (Run.build g a c e).1.st b ≠ .unknown) : Needs g a.manifest b := by
  revert hn hb
  unfold Run.build
  simp only []
  split
  · rename_i s1 hw
    have ht := want_touch_ok hw
    have hk := runLoop_keeps c (runFuel g) s1 e c.perms c.finishes
      (want_inv gok _ _ _ (Run.fresh_inv g a) hw).inv
    split
    · split
      · intro _ hb; exact (ht b (hk b hb)).resolve_left (fun h => h rfl)
      · intro hn; exact absurd hn (phase2_ne_reload _ _ _ _ _ _ _ _ _)
    · intro hn; exact absurd hn (Run.ofRun_ne_reload _ n)
  · nofun
  · nofun

open N2V.Work in
/-- **A whole invocation that regenerates**: when the manifest phase asks for a reload, everything
    that follows is computed from the tree, clock and log it left (`w1`) alone: the manifest is
    LOADED AGAIN from `w1` (new graph, new defaults and pools, signatures attached from the log as it
    is now), targets are resolved and dirtiness decided there by a fresh `Work`; of the first part
    only its trace and its task count survive.  A manifest that no longer loads is an error and
    nothing more runs. -/
theorem invocation_after_regeneration (w : World) (a : InvArgs)
    (obs1 obs2 : List (List Nat) × List (Nat × Sched.Term)) (l : Load.Loader) (e0 : Env)
    (hl : loadEnv w a.manifestName = .ok (l, e0)) (n : Nat) (s1 : S) (e1 : Env)
    (hre : Run.build (schedGraph e0.g) (argsOf l a) (choices a.adopt obs1.1 obs1.2) e0 = (s1, e1, .reload n)) :
    invoke w a obs1 obs2 =
      match loadEnv { fs := e1.fs, clock := e1.clock, log := e1.log } a.manifestName with
      | .error e => ({ fs := e1.fs, clock := e1.clock, log := e1.log }, .err (loadErrKind e),
                     s1.trace.reverse ++ [Sched.Ev.load])
      | .ok (l2, e2) =>
        let r2 := Run.buildReloaded (schedGraph e2.g) (argsOf l2 a) (choices a.adopt obs2.1 obs2.2) e2 n
        ({ fs := r2.2.1.fs, clock := r2.2.1.clock, log := r2.2.1.log }, ofOutcome r2.2.2,
         s1.trace.reverse ++ r2.1.trace.reverse) := by
  unfold invoke
  rw [hl]
  simp only []
  rw [hre]
  simp only []
  cases loadEnv { fs := e1.fs, clock := e1.clock, log := e1.log } a.manifestName <;> rfl

end N2V.C17
