/-
  Model of `canon.rs::canonicalize_path` (lines 44-137).

  The Rust code works in place on the byte buffer with two cursors `dst ≤ src`.  Because
  every write happens at an index `< src` (theorem `C13.bounds`), the bytes at `≥ src` are
  still the original ones when they are read, so the in-place algorithm equals this
  out-of-place one: `rest` is `data[src..]`, `out` is `data[..dst]`, `st` is the component
  stack (a list of `dst` values, most recent first), its first 60 entries are on the machine stack, deeper ones spill to the heap.

  `inComp = true` models the inner "copy one path component, including trailing '/'" step,
  one byte at a time; `inComp = false` is the head of the `while` loop.
-/
import N2V.Model.Basic
namespace N2V.Canon

def isSep (c : UInt8) : Bool := c == 47 || c == 92   -- '/' | '\\'
def dot : UInt8 := 46

/-- After the loop: `if dst == 0 { data[0] = '.'; dst = 1 }`, then `set_len(dst)`. -/
def finish (out : Bytes) : Bytes := if out.isEmpty then [dot] else out

/-- The `..` case: pop the stack and rewind `dst`, or, on an empty stack, emit `..` and the
    separator that followed it (if any). -/
def dotdot (out : Bytes) (st : List Nat) (sep : Option UInt8) : Bytes × List Nat :=
  match st with
  | ofs :: st' => (out.take ofs, st')
  | [] => (out ++ [dot, dot] ++ sep.toList, [])

/-- What the head of the `while` loop decides by peeking at `data[src..src+3]`. -/
inductive Act where
  | skip (rest' : Bytes)                      -- a separator, or "./": nothing is emitted
  | stop                                      -- trailing ".": `break`
  | up (sep : Option UInt8) (rest' : Bytes)   -- a ".." component (followed by `sep` or by the end)
  | comp                                      -- an ordinary component starts here
  deriving DecidableEq, Repr

def classify (c : UInt8) (r : Bytes) : Act :=
  if isSep c then .skip r
  else if c == dot then
    match r with
    | [] => .stop
    | n :: r2 =>
      if isSep n then .skip r2
      else if n == dot then
        match r2 with
        | [] => .up none []
        | m :: r3 => if isSep m then .up (some m) r3 else .comp
      else .comp
  else .comp

theorem classify_skip_len {c r r'} (h : classify c r = .skip r') : r'.length ≤ r.length := by
  unfold classify at h
  by_cases hc : isSep c = true
  · rw [if_pos hc] at h; cases h; exact Nat.le_refl _
  rw [if_neg hc] at h
  by_cases hd : (c == dot) = true
  · rw [if_pos hd] at h
    cases r with
    | nil => cases h
    | cons n r2 =>
      dsimp only at h
      by_cases hn : isSep n = true
      · rw [if_pos hn] at h; cases h; exact Nat.le_succ _
      rw [if_neg hn] at h
      by_cases hnd : (n == dot) = true
      · rw [if_pos hnd] at h
        cases r2 with
        | nil => cases h
        | cons m r3 =>
          dsimp only at h
          by_cases hm : isSep m = true
          · rw [if_pos hm] at h; cases h
          · rw [if_neg hm] at h; cases h
      · rw [if_neg hnd] at h; cases h
  · rw [if_neg hd] at h; cases h

theorem classify_up_len {c r sep r'} (h : classify c r = .up sep r') : r'.length ≤ r.length := by
  unfold classify at h
  by_cases hc : isSep c = true
  · rw [if_pos hc] at h; cases h
  rw [if_neg hc] at h
  by_cases hd : (c == dot) = true
  · rw [if_pos hd] at h
    cases r with
    | nil => cases h
    | cons n r2 =>
      dsimp only at h
      by_cases hn : isSep n = true
      · rw [if_pos hn] at h; cases h
      rw [if_neg hn] at h
      by_cases hnd : (n == dot) = true
      · rw [if_pos hnd] at h
        cases r2 with
        | nil => cases h; exact Nat.zero_le _
        | cons m r3 =>
          dsimp only at h
          by_cases hm : isSep m = true
          · rw [if_pos hm] at h; cases h; exact Nat.le_add_right _ 2
          · rw [if_neg hm] at h; cases h
      · rw [if_neg hnd] at h; cases h
  · rw [if_neg hd] at h; cases h

def go (rest : Bytes) (inComp : Bool) (out : Bytes) (st : List Nat) : Res Bytes :=
  match rest with
  | [] => .ok (finish out)
  | c :: r =>
    if inComp then go r (!isSep c) (out ++ [c]) st
    else
      match h : classify c r with
      | .skip r' => go r' false out st
      | .stop => .ok (finish out)
      | .up sep r' =>
        let p := dotdot out st sep
        go r' false p.1 p.2
      | .comp =>
        -- `components.push(dst)` (beyond 60 entries the stack spills to the heap: repair of
        -- finding F4), then copy the component
        go r true (out ++ [c]) (out.length :: st)
termination_by rest.length
decreasing_by
  · simp
  · have := classify_skip_len h; simp; omega
  · have := classify_up_len h; simp; omega
  · simp

/-- `canonicalize_path`.  `assert!(!path.is_empty())` is the first line. -/
def canon (s : Bytes) : Res Bytes :=
  match s with
  | [] => .panic "assertion failed: !path.is_empty()"
  | c :: r => if isSep c then go r false [c] [] else go s false [] []

/-- Number of path components (maximal runs of non-separator bytes). -/
def numComps : Bytes → Bool → Nat
  | [], _ => 0
  | c :: r, inComp =>
    if isSep c then numComps r false
    else if inComp then numComps r true else numComps r true + 1

end N2V.Canon

/-! ### Component-level specification ("what location does a spelling denote") -/
namespace N2V.Canon

/-- What a spelling denotes: the root separator if any, the leading `..` that could not be
    resolved (each with the separator byte that followed it), and the remaining components in
    order, each with its trailing separator byte (`none` only for a last component without
    one: a trailing separator is significant). -/
structure Denot where
  root : Option UInt8
  ups : List (Option UInt8)
  names : List (Bytes × Option UInt8)
  deriving DecidableEq, Repr

/-- Split into components: maximal runs of non-separator bytes, each with the first separator
    byte after it; further separators are dropped. -/
def toksAux : Bytes → Bytes → List (Bytes × Option UInt8)
  | [], cur => if cur.isEmpty then [] else [(cur, none)]
  | c :: r, cur =>
    if isSep c then
      if cur.isEmpty then toksAux r [] else (cur, some c) :: toksAux r []
    else toksAux r (cur ++ [c])

def toks (s : Bytes) : List (Bytes × Option UInt8) := toksAux s []

def dropLast {α} (l : List α) : List α := l.take (l.length - 1)

/-- Resolve one component against what has been resolved so far. -/
def resolve1 (d : Denot) (t : Bytes × Option UInt8) : Denot :=
  if t.1 = [dot] then d
  else if t.1 = [dot, dot] then
    if d.names.isEmpty then { d with ups := d.ups ++ [t.2] }
    else { d with names := dropLast d.names }
  else { d with names := d.names ++ [t] }

def denote (s : Bytes) : Denot :=
  match s with
  | [] => ⟨none, [], []⟩
  | c :: r =>
    if isSep c then (toks r).foldl resolve1 ⟨some c, [], []⟩
    else (toks s).foldl resolve1 ⟨none, [], []⟩

def render (d : Denot) : Bytes :=
  let body := d.root.toList
    ++ d.ups.flatMap (fun sep => [dot, dot] ++ sep.toList)
    ++ d.names.flatMap (fun t => t.1 ++ t.2.toList)
  if body.isEmpty then [dot] else body

/-- Monitor for C13, evaluated on an observed input/output pair `(s, t)` and the observed
    result `tt` of canonicalising `t` again. -/
structure Mon where
  lenOk : Bool      -- never lengthens
  idem : Bool       -- idempotent
  normal : Bool     -- output is its own normal form: no `.`, empty or `name/..` components
  sameLoc : Bool    -- denotes the same location as the input

def monitor (s t tt : Bytes) : Mon :=
  { lenOk := t.length ≤ s.length
    idem := tt == t
    normal := render (denote t) == t
    sameLoc := denote t == denote s }

end N2V.Canon
