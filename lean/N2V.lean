import N2V.Model.Basic
import N2V.Model.Canon
import N2V.Props.C01
import N2V.Props.C02
import N2V.Props.C03
import N2V.Props.C04
import N2V.Props.C05
import N2V.Props.C06
import N2V.Props.C07
import N2V.Props.C08H
import N2V.Props.C10
import N2V.Props.C11
import N2V.Props.C12
import N2V.Props.C13
import N2V.Props.C14
import N2V.Props.C15
import N2V.Props.C16
import N2V.Props.C17
import N2V.Props.C18
import N2V.Props.C19
import N2V.Props.C20
